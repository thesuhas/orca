import Orca.Gen.ApiOutline
import Orca.Model.ApiOutlineSpec
import Orca.Lemmas.Lower
/-!
# C15 — before/after/alternate injection is lowered exactly

Model: `Orca.Lower` (M3): flag bookkeeping of the injection API (`apply`), `resolve_special_instrumentation`
(`resolveSpecial`) and the code-section loop (`emit`). A C15 plan uses only the three plain modes, so no special
resolution is involved; the statement splits into "the API puts each injected operator at the end of exactly the
addressed list" and "emission is `before ++ (alternate | op) ++ after`, with only `before` at the final `end`".
-/
namespace Orca.Lower

/-- **Emission.** The encoded body is the concatenation, instruction by instruction, of its before-code, then its
    replacement (an empty one removes it) or the instruction itself, then its after-code; at the function's final
    `end` (index `len - 1`) only the before-code and the `end` itself are emitted. An instruction without lists
    contributes exactly itself. -/
theorem c15_emission (f : Func) :
    emit f = f.body.zipIdx.flatMap (fun p => emitOne (f.body.length - 1) p.2 p.1)
    ∧ (∀ (last idx : Nat) (i : Instr), emitOne last idx i =
        i.before ++ (match i.alt with
                     | some a => if idx ≥ last then [i.tok] else a
                     | none => [i.tok]) ++ (if idx ≥ last then [] else i.after)) :=
  ⟨emit_eq f, fun _ _ _ => rfl⟩

/-- a plan of plain modes needs no resolution: what is encoded is `emit` of the flags as the API left them -/
theorem c15_no_resolution (f : Func) (h : f.hasSpecial = false) : lower f = (emit f, f.added) := by
  simp [lower, resolveSpecial_of_not_special f h]

/-- **Bookkeeping.** Selecting before / after / alternate at an instruction and injecting an operator appends it to
    exactly that list of exactly that instruction (several injections per site accumulate in order), leaves every
    other instruction and the function-level lists alone, and does not mark the function for special resolution. -/
theorem c15_inject_appends (f : Func) (idx : Nat) (m : Mode) (t : Tok) (x : Instr) (hx : f.body[idx]? = some x)
    (hm : m = .before ∨ m = .after ∨ m = .alternate) :
    ∃ f2, applyAll f [.setMode idx m, .inject idx t] = some f2
      ∧ f2.hasSpecial = f.hasSpecial ∧ f2.entry = f.entry ∧ f2.exit = f.exit
      ∧ (∀ j, j ≠ idx → f2.body[j]? = f.body[j]?) ∧ f2.body.length = f.body.length
      ∧ f2.body[idx]? = some (grow m x t) := by
  have hadd : ({ x with mode := some m } : Instr).addInstr t = some (grow m x t, false) := by
    rcases hm with rfl | rfl | rfl <;> rfl
  obtain ⟨f2, h, h1, h2, h3, h4, h5, h6⟩ := setMode_inject f idx m t x _ _ hx hadd
  exact ⟨f2, h, h1.trans (Bool.or_false _), h2, h3, h5, h6, h4⟩

/-- `add_instr_at(loc, op)` called directly on a function modifier addresses **that** location: the operator is appended to the list of
    the current mode of the instruction at `loc` — not of the location selected last, not of the function-level mode — and nothing
    else changes -/
theorem c15_add_instr_at_addresses_its_location (f f' : Func) (idx : Nat) (t : Tok) (h : apply f (.addInstrAt idx t) = some f') :
    ∃ x x' sp, f.body[idx]? = some x ∧ x.addInstr t = some (x', sp) ∧ f'.body = f.body.set idx x'
      ∧ f'.hasSpecial = (f.hasSpecial || sp) ∧ f'.fmode = f.fmode ∧ f'.entry = f.entry ∧ f'.exit = f.exit :=
  addInstrAt_spec f f' idx t h

/-- removal: `empty_alternate` makes the replacement the empty list -/
theorem c15_empty_alternate (f : Func) (idx : Nat) (x : Instr) (hx : f.body[idx]? = some x) :
    ∃ f', apply f (.emptyAlt idx) = some f' ∧ f'.body[idx]? = some { x with alt := some [] }
      ∧ (∀ j, j ≠ idx → f'.body[j]? = f.body[j]?) ∧ f'.hasSpecial = f.hasSpecial := by
  have h := modifyAt_get f.body idx (fun i => { i with alt := some [] }) x hx
  refine ⟨{ f with body := modifyAt f.body idx (fun i => { i with alt := some [] }) }, by simp [apply, hx], h.1, h.2.1, rfl⟩

/-- non-vacuity: before + after on `nop`, removal of `drop`, an alternate on the final `end` is ignored -/
example :
    let f0 : Func := { body := [⟨"nop", .other, none, [], [], none, [], [], [], none⟩, ⟨"drop", .other, none, [], [], none, [], [], [], none⟩,
                               ⟨"end", .end_, none, [], [], none, [], [], [], none⟩] }
    ((applyAll f0 [.setMode 0 .before, .inject 0 "a", .setMode 0 .after, .inject 0 "b", .inject 0 "c", .emptyAlt 1,
                   .setMode 2 .alternate, .inject 2 "x", .setMode 2 .before, .inject 2 "y"]).map (fun f => (lower f).1))
      = some ["a", "nop", "b", "c", "y", "end"] := by decide +kernel

end Orca.Lower

/-- **The tie to the source (regenerated on every run).** The per-instruction injection lists (`InstrumentationFlag::add_instr`, `has_instr`, `clear_instr`, `Instruction::add_instr`, src/ir/types.rs) that M3 `ApiOp.inject` / `ApiOp.clear` / `Instr.hasInstr` transcribe, word for word (white space normalised). Any change of their text breaks this obligation. -/
theorem c15_injection_lists_code_reviewed :
    Orca.Gen.ApiOutline.flag_add_instr = Orca.ApiOutlineSpec.flag_add_instr
    ∧ Orca.Gen.ApiOutline.flag_has_instr = Orca.ApiOutlineSpec.flag_has_instr
    ∧ Orca.Gen.ApiOutline.flag_clear_instr = Orca.ApiOutlineSpec.flag_clear_instr
    ∧ Orca.Gen.ApiOutline.instruction_add_instr = Orca.ApiOutlineSpec.instruction_add_instr :=
  ⟨rfl, rfl, rfl, rfl⟩

/-- **The tie to the source (regenerated on every run).** The location-addressed injection API of the function modifier and of the module iterator (`inject`, `inject_at`, `set_instrument_mode_at`, `clear_instr_at`, `add_instr_at`, `empty_alternate_at`), word for word: which instruction of which function an injection goes to is the whole content of these functions. -/
theorem c15_location_api_code_reviewed :
    Orca.Gen.ApiOutline.modifier_inject = Orca.ApiOutlineSpec.modifier_inject
    ∧ Orca.Gen.ApiOutline.modifier_inject_at = Orca.ApiOutlineSpec.modifier_inject_at
    ∧ Orca.Gen.ApiOutline.modifier_set_instrument_mode_at = Orca.ApiOutlineSpec.modifier_set_instrument_mode_at
    ∧ Orca.Gen.ApiOutline.modifier_clear_instr_at = Orca.ApiOutlineSpec.modifier_clear_instr_at
    ∧ Orca.Gen.ApiOutline.modifier_add_instr_at = Orca.ApiOutlineSpec.modifier_add_instr_at
    ∧ Orca.Gen.ApiOutline.modifier_empty_alternate_at = Orca.ApiOutlineSpec.modifier_empty_alternate_at
    ∧ Orca.Gen.ApiOutline.moditer_inject = Orca.ApiOutlineSpec.moditer_inject
    ∧ Orca.Gen.ApiOutline.moditer_inject_at = Orca.ApiOutlineSpec.moditer_inject_at
    ∧ Orca.Gen.ApiOutline.moditer_set_instrument_mode_at = Orca.ApiOutlineSpec.moditer_set_instrument_mode_at
    ∧ Orca.Gen.ApiOutline.moditer_clear_instr_at = Orca.ApiOutlineSpec.moditer_clear_instr_at
    ∧ Orca.Gen.ApiOutline.moditer_add_instr_at = Orca.ApiOutlineSpec.moditer_add_instr_at
    ∧ Orca.Gen.ApiOutline.moditer_empty_alternate_at = Orca.ApiOutlineSpec.moditer_empty_alternate_at
    ∧ Orca.Gen.ApiOutline.localfn_clear_instr_at = Orca.ApiOutlineSpec.localfn_clear_instr_at
    ∧ Orca.Gen.ApiOutline.body_clear_instr = Orca.ApiOutlineSpec.body_clear_instr :=
  ⟨rfl, rfl, rfl, rfl, rfl, rfl, rfl, rfl, rfl, rfl, rfl, rfl, rfl, rfl⟩
