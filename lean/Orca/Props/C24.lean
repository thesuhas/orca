import Orca.Lemmas.Helpers
import Orca.Model.HelperEmit
import Orca.Model.HelperSpec
/-!
# C24 — opcode helpers emit exactly the named instruction

Model: `Orca.Gen.Helpers` is regenerated from /repo/src/opcode.rs on every run (translator/gen_helpers.py): for each
of the helpers of `Opcode` / `MacroOpcode` the `Operator` variant it injects, its parameter types, and for every field
of the variant the parameter and conversion that fill it. The specification is the committed dictionary
`Orca.Spec.denotes` (helper name ↦ instruction) and "the i-th parameter is the i-th immediate of the instruction
(wasmparser's declaration order), bit for bit".
-/
namespace Orca.Gen
open Orca.Helpers

/-- Every helper injects the instruction its name denotes. -/
theorem c24_variant : ∀ h : Helper, h.variant = Orca.Spec.denotes h :=
  fun _ => rfl

/-- For every helper: the injected variant has exactly as many immediates as the helper has parameters, the
    i-th immediate is filled from the i-th parameter, and the conversion used is one that applies to the parameter's type. -/
theorem c24_wired : ∀ h : Helper, h.wired = true := by
  intro h; cases h <;> decide +kernel

/-- Each conversion keeps the bit pattern: identity for `u32` / `i32` / `i64` parameters and id
    newtypes, `to_bits` for floats (NaN payloads included: the pattern is the value), two's-complement reinterpretation
    for `u32 as i32` / `u64 as i64`. -/
theorem c24_conversions (c : Conv) (t : PTy) (n : Nat) (hfit : c.fits t = true) (hb : t.width ≠ 0 → n < 2 ^ t.width) :
    fieldBits c t (fieldVal c t n) = n :=
  fieldBits_fieldVal c t n hfit hb

theorem c24_unsigned_const_reinterprets (n : Nat) :
    (n < 2 ^ 32 → bitsOf 32 (fieldVal .asI32 .u32 n) = n
        ∧ -(2147483648 : Int) ≤ fieldVal .asI32 .u32 n ∧ fieldVal .asI32 .u32 n < 2147483648)
    ∧ (n < 2 ^ 64 → bitsOf 64 (fieldVal .asI64 .u64 n) = n
        ∧ -(9223372036854775808 : Int) ≤ fieldVal .asI64 .u64 n ∧ fieldVal .asI64 .u64 n < 9223372036854775808) := by
  -- `fieldVal .asI32 .u32 n` unfolds to `toSigned 32 n` and the bounds are `2 ^ 31` evaluated; likewise at 64
  exact ⟨fun h => ⟨bitsOf_toSigned 32 n (by decide) h, toSigned_range 32 n (by decide) h⟩,
    fun h => ⟨bitsOf_toSigned 64 n (by decide) h, toSigned_range 64 n (by decide) h⟩⟩

theorem map_pairs_range {l : List Assign} {n : Nat}
    (h : l.map (fun a => (a.fieldPos, a.param)) = (List.range n).map (fun i => (i, i))) :
    l.length = n ∧ ∀ i (hi : i < l.length), (l[i]).param = i := by
  have hl : l.length = n := by simpa using congrArg List.length h
  refine ⟨hl, fun i hi => ?_⟩
  have hi' : i < n := hl ▸ hi
  have := congrArg (fun m => m[i]?) h
  simp only [List.getElem?_map, List.getElem?_eq_getElem hi, List.getElem?_range hi', Option.map_some, Option.some.injEq,
    Prod.mk.injEq] at this
  exact this.2

/-- Calling helper `h` with arguments whose bit patterns are `args` (one per parameter, each within the
    width of its type) injects the instruction `denotes h` whose immediates, in order, carry exactly the patterns `args`. -/
theorem c24_exact (h : Helper) (args : List Nat) (hl : args.length = h.params.length)
    (hb : ∀ (i : Nat) (t : PTy) (n : Nat), h.params[i]? = some t → args[i]? = some n → t.width ≠ 0 → n < 2 ^ t.width) :
    (h.emit args).1 = Orca.Spec.denotes h
    ∧ (h.emit args).2.length = args.length
    ∧ ∀ i (hi : i < args.length), ∃ a v, h.wiring[i]? = some a ∧ (h.emit args).2[i]? = some (some v)
        ∧ h.bitsAt a v = some args[i] := by
  have hw := c24_wired h
  simp only [Helper.wired, Bool.and_eq_true, beq_iff_eq, List.all_eq_true] at hw
  obtain ⟨⟨hpairs, _⟩, hfits⟩ := hw
  obtain ⟨hlen, hparam⟩ := map_pairs_range hpairs
  refine ⟨c24_variant h, by simp [Helper.emit, hlen, hl], fun i hi => ?_⟩
  have hiw : i < h.wiring.length := by omega
  have hip : i < h.params.length := by omega
  have hpa : (h.wiring[i]).param = i := hparam i hiw
  have hmem : h.wiring[i] ∈ h.wiring := List.getElem_mem hiw
  have hfit := hfits _ hmem
  rw [hpa] at hfit
  simp only [List.getElem?_eq_getElem hip] at hfit
  refine ⟨h.wiring[i], fieldVal (h.wiring[i]).conv h.params[i] args[i], List.getElem?_eq_getElem hiw, ?_, ?_⟩
  · simp [Helper.emit, hiw, Helper.immOf, hpa, hip, hi]
  · simp only [Helper.bitsAt, hpa, List.getElem?_eq_getElem hip, Option.map_some]
    congr 1
    exact fieldBits_fieldVal _ _ _ hfit (hb i _ _ (List.getElem?_eq_getElem hip) (List.getElem?_eq_getElem hi))

/-- non-vacuity: `u32_const(0xFFFF_FFFE)` injects `i32.const -2`; `memory_copy(1, 0)` keeps destination and source apart;
    `f32_const` of a signalling-NaN pattern keeps it -/
example : Helper.h_u32_const.emit [4294967294] = (.I32Const, [some (-2)]) := by decide +kernel
example : Helper.h_memory_copy.emit [1, 0] = (.MemoryCopy, [some 1, some 0]) := by decide +kernel
example : Helper.h_f32_const.emit [0x7FA00001] = (.F32Const, [some 0x7FA00001]) := by decide +kernel
example : Helper.h_struct_get.emit [7, 3] = (.StructGet, [some 7, some 3]) := by decide +kernel

end Orca.Gen
