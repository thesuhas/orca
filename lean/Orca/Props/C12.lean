import Orca.Model.Builder
import Orca.Gen.ApiOutline
import Orca.Model.ApiOutlineSpec
import Orca.Lemmas.Locals
import Orca.Lemmas.Lower
import Orca.Lemmas.Types
import Orca.Props.C13
import Orca.Lemmas.Ops
import Orca.Lemmas.Redirect
/-!
# C12 — built functions appear exactly as built

Models: M14 (`Orca.Builder`, the function builder), M6 (locals), M3 (emission of a function body), M5 (the function
type is interned with `add_func_type`), M2 (the id `finish_module` returns), M13 (the name; C29). One statement per
clause of the property; the `adds` family builds functions with random signatures, locals, bodies and names among
renumbering edits and compares the decoded output clause by clause.
-/
namespace Orca.Builder
open Orca.Locals

theorem injectAll_ops (b : B) (ts : List Lower.Tok) : (injectAll b ts).ops = b.ops ++ ts := by
  induction ts generalizing b with
  | nil => simp [injectAll]
  | cons t ts ih => simp only [injectAll, List.foldl_cons] at ih ⊢; rw [ih]; simp [inject]

theorem injectAll_locals (b : B) (ts : List Lower.Tok) : (injectAll b ts).locals = b.locals ∧ (injectAll b ts).name = b.name
    ∧ (injectAll b ts).params = b.params ∧ (injectAll b ts).results = b.results := by
  induction ts generalizing b with
  | nil => simp [injectAll]
  | cons t ts ih => simp only [injectAll, List.foldl_cons] at ih ⊢; simpa [inject] using ih (inject b t)

/-- **instructions.** The built instruction sequence followed by exactly one `end` -/
theorem c12_body (params results : List Nat) (ts : List Lower.Tok) :
    (finish (injectAll (new params results) ts)).body = ts ++ ["end"] := by
  simp [finish, injectAll_ops, new]

/-- the code section emits a function nobody has instrumented as it is: every instruction itself, in order, nothing added -/
theorem c12_body_emitted (body : List Lower.Tok) : Lower.emit (plain body) = body := by
  have h : ∀ (l : List Lower.Tok) (last k : Nat),
      Lower.emitFrom last k (l.map fun t => ({ tok := t, kind := .other } : Lower.Instr)) = l := by
    intro l
    induction l with
    | nil => intro last k; rfl
    | cons t ts ih => intro last k; simp [Lower.emitFrom, ih]
  simp [Lower.emit, plain, h]

/-- **locals.** Declaring locals `tys` one by one returns the indices `#params, #params + 1, …` and the function
    declares exactly `tys`, in order -/
theorem c12_locals (params results tys : List Nat) :
    let r := Locals.addLocals (new params results).locals tys
    expand r.1.decls = tys ∧ r.2 = (List.range tys.length).map (fun k => params.length + k) := by
  -- the locals of a fresh builder are `parsed params.length []` by definition: `addLocals_spec` with no declarations before
  obtain ⟨e, i, _, _⟩ := addLocals_spec tys (parsed params.length []) (parsed_inv _ _)
  exact ⟨by simpa [new, expand, parsed] using e, by simpa [new, expand, parsed] using i⟩

/-- **signature.** `finish_module` interns the function type with `add_func_type`; the encoded type section holds
    exactly that type at the index the function section refers to, and no existing type moved (C13) -/
theorem c12_signature {τ : Type} [DecidableEq τ] (s : Orca.Types.TState τ) (fty : τ) (h : Orca.Types.WF s) :
    let r := Orca.Types.addType s fty
    (Orca.Types.encoded r.1)[r.2]? = some (some fty) ∧ (∃ ext, Orca.Types.encoded r.1 = Orca.Types.encoded s ++ ext) := by
  have h13 := Orca.Types.c13_add_type s fty h
  exact ⟨h13.1, h13.2.2.1⟩

/-- **id.** The id `finish_module` returns is the position the function is stored at (`functions.len()` before the
    call) — the id that `encode` maps to the function's index in the output (C06, `c06_encode_refs`) -/
theorem c12_returned_id (s : Orca.Edit.St) (uid : Nat) (sites : List Orca.Edit.Ref) :
    (Orca.Edit.addLocalFunc s uid sites).2 = Orca.Edit.Ret.id s.f.items.length
    ∧ (Orca.Edit.addLocalFunc s uid sites).1.f.items = s.f.items ++ [Orca.Edit.mkItem s.f.items.length false uid 0] := by
  exact ⟨rfl, rfl⟩

open Orca.Edit in
/-- **the returned id refers to the built function — in the encoded module, after any later history** that neither deletes nor
    converts it (and does not encode): every emitted function reference whose stored id is the id `finish_module` returned
    designates the built function `uid`, or the encoder fails loudly on some dangling reference. -/
theorem c12_returned_id_refers_to_it (s0 : St) (h0 : StInv s0) (uid : Nat) (sites : List Ref) (ops : List Op)
    (hs : ∀ o ∈ ops, o ≠ .encode ∧ o ≠ .deleteFunc s0.f.items.length ∧ ∀ u, o ≠ .localToImport s0.f.items.length u) :
    let n := (s0.space .F).items.length
    let s := (run (step s0 (.addLocalFunc uid sites)).1 ops).1
    reportedId (step s0 (.addLocalFunc uid sites)).2 = some n
    ∧ ((∃ s' F G M res st, encode s = (s', Ret.encoded F G M res st)
        ∧ (∀ r' ∈ res ++ st.toList, ∃ r ∈ allRefs s, r'.site = r.site ∧ r'.sp = r.sp
            ∧ (∃ u, PointsTo s r u ∧ designated F G M r' = some u)
            ∧ (r.sp = .F → r.idx = n → designated F G M r' = some uid)))
      ∨ (∃ s' why, encode s = (s', Ret.panic why) ∧ ∃ r ∈ allRefs s, Dangling s r)) := by
  refine added_id_designates s0 h0 (.addLocalFunc uid sites) .F uid rfl ops (fun x hx o ho => ?_)
  obtain ⟨a, b, c⟩ := hs o ho
  -- `addLocalFunc` is a straight-line definition: unfolded, the vector after it is `s0.f.items` with one item appended
  have hx : (s0.f.items ++ [mkItem s0.f.items.length false uid 0])[s0.f.items.length]? = some x := hx
  -- so `x` is that item: a local function (no replacement of an import can address it)
  cases hx.symm.trans List.getElem?_concat_length
  exact sparesF_of_ne a b (.inr c) (.inl rfl)

/-- **name.** The name set on the builder is the name handed to the module (and C29 places it at the function's index) -/
theorem c12_name (params results : List Nat) (n : String) (ts : List Lower.Tok) :
    (finish (injectAll (setName (new params results) n) ts)).name = some n := by
  simp [finish, (injectAll_locals _ ts).2.1, setName]

/-! non-vacuity (decided) -/
example :
    let b := injectAll (addLocal (addLocal (addLocal (new [1, 2] [3]) 7).1 7).1 4).1 ["local.get:0", "drop", "f32.const:1"]
    expand (finish b).decls = [7, 7, 4] ∧ (finish b).decls = [(2, 7), (1, 4)] ∧ (finish b).body = ["local.get:0", "drop", "f32.const:1", "end"]
      ∧ Lower.emit (plain (finish b).body) = ["local.get:0", "drop", "f32.const:1", "end"] := by decide +kernel

end Orca.Builder

/-- **The tie to the source (regenerated on every run).** The control-and-call skeletons of the functions this property rests on:
    `finish_module_with_tag` and `add_local_func_with_tag` are what M14 was transcribed from. A step moved, an early exit, guard, call or assignment added or removed breaks this obligation; renaming, comments and
    formatting do not. -/
theorem c12_builder_code_reviewed :
    Orca.Gen.ApiOutline.add_local_func_with_tag = Orca.ApiOutlineSpec.add_local_func_with_tag
    ∧ Orca.Gen.ApiOutline.finish_module_with_tag = Orca.ApiOutlineSpec.finish_module_with_tag :=
  ⟨rfl, rfl⟩
