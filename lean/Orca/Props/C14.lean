import Orca.Lemmas.Locals
import Orca.Gen.ApiOutline
import Orca.Model.ApiOutlineSpec
/-!
# C14 — added locals get fresh indices of the requested type

Model: `Orca.Locals` (M6), the function `add_local` every local-adding API ends in
(`FunctionBuilder::add_local`, `FunctionModifier::add_local(s)`, `ModuleIterator::add_local`,
`ComponentIterator::add_local`, `LocalFunction::add_local`, and the branch-flag locals of the
special-mode lowering). The encoded function declares `decls` verbatim; a decoder sees
`params ++ expand decls`.
-/
namespace Orca.Locals

/-- one addition: the returned index is `#params + #previously declared locals`, the function
    now declares exactly one more local, of the requested type, at that index, and every
    existing local keeps its index and type. -/
theorem c14_add_local (nparams : Nat) (decls : Decls) (ty : Nat) :
    let s := parsed nparams decls
    let r := addLocal s ty
    r.2 = nparams + (expand decls).length
    ∧ expand r.1.decls = expand decls ++ [ty]
    ∧ (expand r.1.decls)[r.2 - nparams]? = some ty
    ∧ (∀ i, i < (expand decls).length → (expand r.1.decls)[i]? = (expand decls)[i]?) := by
  intro s r
  have hi : r.2 = nparams + (expand decls).length := addLocal_index s ty (parsed_inv _ _)
  have he : expand r.1.decls = expand decls ++ [ty] := addLocal_expand s ty
  refine ⟨hi, he, ?_, ?_⟩
  · rw [he, hi]; simp
  · intro i hlt; rw [he, List.getElem?_append_left hlt]

/-- any history of additions on a parsed (or freshly built) function: the ids returned are
    consecutive fresh indices, the declared locals are the old ones followed by the requested
    types in order. -/
theorem c14_add_locals (nparams : Nat) (decls : Decls) (tys : List Nat) :
    let r := addLocals (parsed nparams decls) tys
    expand r.1.decls = expand decls ++ tys
    ∧ r.2 = (List.range tys.length).map (fun k => nparams + (expand decls).length + k)
    ∧ r.1.nparams = nparams := by
  intro r
  obtain ⟨e, i, _, n⟩ := addLocals_spec tys (parsed nparams decls) (parsed_inv _ _)
  exact ⟨e, i, n⟩

/-- the type declared at each returned id is the requested one -/
theorem c14_types_at_ids (nparams : Nat) (decls : Decls) (tys : List Nat) (k : Nat) (hk : k < tys.length) :
    let r := addLocals (parsed nparams decls) tys
    ∃ id, r.2[k]? = some id ∧ (expand r.1.decls)[id - nparams]? = tys[k]? := by
  obtain ⟨e, i, _⟩ := c14_add_locals nparams decls tys
  refine ⟨nparams + (expand decls).length + k, by rw [i]; simp [hk], ?_⟩
  rw [e, show nparams + (expand decls).length + k - nparams = (expand decls).length + k by omega,
    List.getElem?_append_right (by omega)]
  simp

/-- non-vacuity: a concrete function with 2 params, locals `(2×t7) (1×t3)`; adding `t3, t3, t9`
    returns 5, 6, 7 and regroups the run lengths. -/
example : (addLocals (parsed 2 [(2, 7), (1, 3)]) [3, 3, 9]).2 = [5, 6, 7]
    ∧ (addLocals (parsed 2 [(2, 7), (1, 3)]) [3, 3, 9]).1.decls = [(2, 7), (3, 3), (1, 9)] := by decide +kernel

end Orca.Locals

/-- **The tie to the source (regenerated on every run).** The control-and-call skeletons of the functions this property rests on:
    `add_local` / `add_locals` (module_functions.rs) are what M6 was transcribed from; `add_local` is also taken word for word (its whole content is index arithmetic and one comparison). A step moved, an early exit, guard, call or assignment added or removed breaks this obligation; renaming, comments and
    formatting do not. -/
theorem c14_add_local_code_reviewed :
    Orca.Gen.ApiOutline.add_local = Orca.ApiOutlineSpec.add_local
    ∧ Orca.Gen.ApiOutline.add_locals = Orca.ApiOutlineSpec.add_locals
    ∧ Orca.Gen.ApiOutline.add_local_text = Orca.ApiOutlineSpec.add_local_text :=
  ⟨rfl, rfl, rfl⟩

/-- where the number of arguments of a function comes from when it is created (`LocalFunction::new(.., num_args, ..)`): the number of
    *parameters* of the builder, for a function added to the module and for one that takes the place of an import alike. The returned
    index of `add_local` is `num_args + num_locals` (M6 `addLocal`), so these two call sites are part of what C14 rests on. -/
theorem c14_argument_count_of_built_functions :
    "LocalFunction::new(ty,FunctionID(0),body,params.len(),Some(tag))" ∈ Orca.Gen.ApiOutline.add_local_func_with_tag
    ∧ "LocalFunction::new(TypeID(imp_ty_id),FunctionID(*import_id),self.body.clone(),self.params.len(),Some(tag))"
        ∈ Orca.Gen.ApiOutline.replace_import_in_module_with_tag :=
  -- by position (steps 1 and 10 of the outlines): finding them by comparing strings costs the kernel 2M heartbeats
  ⟨List.mem_of_getElem? (i := 1) rfl, List.mem_of_getElem? (i := 10) rfl⟩
