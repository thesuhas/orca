import Orca.Lemmas.SemSim
import Orca.Lemmas.Bridge
import Orca.Gen.ResolverOutline
import Orca.Model.ResolverOutlineSpec
import Orca.Lemmas.SemBranch
import Orca.Lemmas.OneProbe
import Orca.Lemmas.StackSpec
/-!
# C18 — block entry probes fire on every entry into the block

Model: `Orca.Sem` (M4). In the monitor semantics (`run … true`) the `entry` slot of a block, a loop, the then-arm or the
else-arm of an `if` fires *by definition* each time control enters that body — for a loop on the first entry and on
every `br` to its label — and at no other time. `lower` places the probes as the code does (behind the opener / the
`else`). The theorem says that the lowered code, run with the monitor off, produces exactly the monitor's outcome,
trace included. Tie to the code: `sem` family (tree lowering = decoded output of the crate; both executed).
-/
namespace Orca.Sem

/-- the monitor's definition, spelled out for one construct: entering a block fires its entry probes first -/
theorem c18_monitor_block (fns : List Callee) (fx b : List Nat) (ann : Ann) (a : Nat) (tk : Tok) (body : List Instr) (s : St) (f : Nat) :
    runOne fns true fx (f + 1) (.block b ann a tk body) s
      = leaveBlock true ann s.stack a (run fns true fx f body ((s.fire b).fire ann.entry)) :=
  runOne_block b ann a tk body

/-- every iteration of a loop fires the entry probes again: a `br` to the loop's label re-enters through the same rule -/
theorem c18_monitor_loop_again (fns : List Callee) (fx b : List Nat) (ann : Ann) (tk : Tok) (body : List Instr) (s s' : St) (pd) (f : Nat)
    (h : run fns true fx f body ((s.fire b).fire ann.entry) = .br 0 pd s') :
    runOne fns true fx (f + 1) (.loop b ann tk body) s
      = runOne fns true fx f (.loop [] ann tk body) { s' with stack := s.stack } := by
  rw [runOne_loop]
  exact congrArg _ h

/-- **C18 (with C16, C19, C20-blocks).** For every program without semantic-after annotations on branches, every state
    and every terminating monitored run: the lowered program, monitor off, ends in the same outcome — same control
    (normal / branch depth / return / trap), same stack, locals, globals, memory, and the same trace, i.e. every
    block-entry probe fired exactly at the entries the monitor defines. -/
theorem c18_block_entry (fns : List Callee) (fx : List Nat) (f : Nat) (p : List Instr) (s : St) (o : Out)
    (hns : noSAL p = true) (h : run fns true fx f p s = o) (ok : o.ok = true) :
    ∃ g, run fns false [] g (lowerL fx p) s = o :=
  lower_sim_run hns h ok

/-- the same with semantic-after probes on branches in the function (scope of C20's branch theorem: annotated `br` /
    `br_if`, targets not in loops, not the function label; distinct flag locals, untouched by the program, 0 on entry):
    the lowered function reproduces results, traps, globals, memory and the whole trace — block entry probes at their defining
    moments included — and differs at most in the flag locals -/
theorem c18_entry_with_branch_probes (fns : List Callee) (Fl : List Nat) (F : Func)
    (hsc : scopedL Fl F.body = true) (hnd : (flagsL F.body).Nodup) (hF : ∀ x ∈ flagsL F.body, x ∈ Fl)
    (hnoesc : ∀ d, pendingL d F.body = []) (s s' : St) (hs : s.stack = []) (hfe : FlagEq Fl s s')
    (hz : ∀ x ∈ flagsL F.body, flagIs s' x 0) (f : Nat) (ok : (runFunc fns true f F s).ok = true) :
    ∃ g, FOutRel Fl (runFunc fns true f F s) (runFunc fns false g (lowerF F) s') :=
  branch_lowerF_sim (fns := fns) Fl F hsc hnd hF hnoesc s s' hs hfe hz f ok

/-! non-vacuity (decided in the kernel): a loop of two iterations with entry probe 1001 and exit probe 1002; an `if`
    whose then-arm is taken, with entry probes on both arms -/
def exLoop : List Instr :=
  [ .op [] [] (.const 2), .op [] [] (.localSet 0),
    .loop [] { entry := [1001], exit := [1002] } "loop"
      [ .op [] [] (.localGet 0), .op [] [] (.const 1), .op [] [] .sub, .op [] [] (.localTee 0), .brIf [] [] none 0 ] ]
def exSt : St := { stack := [], locals := [0], globals := [], mem := [], trace := [] }

example : noSAL exLoop = true := by decide +kernel
example : (match run [] true [] 50 exLoop exSt with | .normal s => s.trace | _ => [0]) = [1001, 1001, 1002] := by decide +kernel
example : (match run [] false [] 50 (lowerL [] exLoop) exSt with | .normal s => s.trace | _ => [0]) = [1001, 1001, 1002] := by decide +kernel

def exIf : List Instr :=
  [ .op [] [] (.const 1), .ite [] { entry := [1001] } { entry := [1002] } 0 "if" [.op [] [] .nop] [.op [] [] .nop] true ]
example : (match run [] false [] 50 (lowerL [] exIf) exSt with | .normal s => s.trace | _ => [0]) = [1001] := by decide +kernel

/-- the flat-code statement for M3, the transcription of the resolver (every body; `Lemmas/OneProbe.lean`): a block-entry probe
    on a `block` / `loop` / `if` is encoded right behind the opening instruction -/
theorem c18_flat_block_entry_placed (f : Orca.Lower.Func) (pre rest : List Orca.Lower.Instr) (sel : Orca.Lower.Instr) (pr : List Orca.Lower.Tok)
    (hbody : f.body = pre ++ sel :: rest) (hrne : rest ≠ [])
    (hsp : f.hasSpecial = true) (hentry : f.entry = []) (hexit : f.exit = [])
    (hpre : ∀ x ∈ pre, Orca.Lower.Clean x) (hrest : ∀ x ∈ rest, Orca.Lower.Clean x) (hsel : Orca.Lower.OnlyEntry sel pr)
    (hk : sel.kind = .block ∨ sel.kind = .loop ∨ sel.kind = .if_)
    (n n2 : Nat) (hd1 : Orca.Lower.depthAfter pre 1 = some n) (hd2 : Orca.Lower.depthAfter rest (n + 1) = some n2) :
    Orca.Lower.lower f = (Orca.Lower.toks pre ++ [sel.tok] ++ pr ++ Orca.Lower.toks rest, f.added) :=
  Orca.Lower.blockEntry_placed f pre rest sel pr hbody hrne hsp hentry hexit hpre hrest hsel hk n n2 hd1 hd2

end Orca.Sem

namespace Orca.Lower

/-- **flat code, every plan.** Not only a single probe (`…_placed` above): for any number of block-entry probes, together with any other
    block-level probes and `before` / `after` code, on any constructs nested in any way, the encoded function is what the stack machine
    `specRun` defines (Lemmas/StackSpec.lean), which puts block-entry code behind the opener (`specStep`: the opener's final `after` list is `after ++ blockEntry`; for an `else`, behind the `else`). -/
theorem c18_flat_every_plan (f : Func) (hsp : f.hasSpecial = true) (hentry : f.entry = []) (hexit : f.exit = [])
    (hp : ∀ x ∈ f.body, Plain x) (out : List Tok) (hs : specRun (f.body.length - 1) 0 [{}] f.body = some out) :
    lower f = (out, f.added) :=
  lower_eq_spec f hsp hentry hexit hp out hs

end Orca.Lower

/-- **The tie to the source (regenerated on every run).** The skeleton of `resolve_block_entry` is what the first stage of
    `planSpecial` was transcribed from: on the four block-structured operators the probe becomes `after` code of the opener, with no
    guard and no other exit. -/
theorem c18_block_entry_code_reviewed :
    Orca.Gen.Outline.resolve_block_entry = Orca.Lower.Outline.resolve_block_entry := rfl

/-- The code's lowering (M3 `Lower.lower`: `resolve_special_instrumentation` and the emission loop) of the flattened function `flatF F nl`
    emits the tree lowering's tokens, `flattenF (lowerF F)` = `toksL (lowerF F).body ++ ["end"]`, and adds one local per flagged branch. Scope:
    `okL`, branch depths inside the function, flags numbered from `nl`, no `entry` / `exit` code beside `before` code on instruction 0 (Lemmas/Bridge.lean). -/
theorem c18_code_lowering_is_tree_lowering (F : Orca.Sem.Func) (nl : Nat) (hok : Orca.Bridge.okL F.body = true)
    (hd : Orca.Bridge.depthOkL 1 F.body = true)
    (hnum : Orca.Sem.flagsL F.body = List.range' nl (Orca.Sem.flagsL F.body).length)
    (hfirst : (F.entry = [] ∧ F.exit = []) ∨ ((Orca.Bridge.flatF F nl).body.head?.map (·.before)) = some []) :
    Orca.Lower.lower (Orca.Bridge.flatF F nl)
      = (Orca.SemTree.flattenF (Orca.Sem.lowerF F), (Orca.Sem.flagsL F.body).length) :=
  Orca.Bridge.code_lowering_is_flattened_tree_lowering F nl hok hd hnum hfirst
