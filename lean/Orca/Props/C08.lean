import Orca.Gen.RefTables
import Orca.Lemmas.Ops
import Orca.Lemmas.Preserve
import Orca.Lemmas.Redirect
import Orca.Gen.MapSites
/-!
# C08 — memory references stay bound to the same memory across edits

Two parts. (1) Tables, regenerated from the source on every run (`Orca.Gen.RefTables`): every operator that
wasmparser gives a memory immediate is recognised by `refers_to_memory`, and `update_memory_instr` rewrites exactly
as many memory immediates as the operator has. (2) The index-space argument shared with C06/C07
(`Orca.Edit.encode_spec`), instantiated for the memory space, and the ids reported by the memory additions.
-/
namespace Orca.Gen

/-- `refers_to_memory` recognises exactly the operators that carry a memory immediate -/
theorem c08_refers_to_memory_complete : ∀ op : Op, wirmRefersMem op = decide (specMemFields op ≠ 0) := by
  intro op; cases op <;> decide +kernel

/-- `update_memory_instr` rewrites every memory immediate of every such operator (both for `memory.copy`) -/
theorem c08_update_memory_all_fields : ∀ op : Op, wirmUpdatedMemFields op = specMemFields op :=
  fun _ => rfl

/-- non-vacuity: the atomic read-modify-write family and `memory.copy` are in the tables -/
example : wirmRefersMem .I64AtomicRmw32CmpxchgU = true ∧ wirmUpdatedMemFields .MemoryCopy = 2
    ∧ wirmRefersMem .I32Add = false := by decide

end Orca.Gen

namespace Orca.Edit
open Orca.Reindex

/-- every emitted memory reference designates the live memory its stored index designated, or encoding fails
    loudly on a reference to a deleted memory (the statement covers all three spaces; see C06) -/
theorem c08_memory_refs (s : St) (hf : SpaceInv s.f s.imports .F) (hg : SpaceInv s.g s.imports .G)
    (hm : SpaceInv s.m s.imports .M) :
    (∃ s' F G M res st, encode s = (s', Ret.encoded F G M res st)
        ∧ (∀ r' ∈ res, r'.sp = Sp.M → ∃ r ∈ allRefs s, r'.site = r.site ∧ r.sp = Sp.M
            ∧ ∃ u, PointsTo s r u ∧ M[r'.idx]? = some u))
    ∨ (∃ s' why, encode s = (s', Ret.panic why) ∧ ∃ r ∈ allRefs s, Dangling s r) :=
  encode_spec_space .M s hf hg hm

/-- **a reported id is new.** With stored ids equal to positions (`IdsFresh`, a clause of the state invariant of every state reached
    from a parsed module before an encode), the id reported for an added memory - the length of the vector - is held by no entity of
    the space, live or deleted (the `edit` family judges this on the crate: signature `M-returned-id-already-in-use`). -/
theorem c08_reported_id_is_new (s : St) (hf : IdsFresh s.m.items) (it : Item) (hit : it ∈ s.m.items) :
    it.id ≠ s.m.items.length :=
  Nat.ne_of_lt (idsFresh_id_lt hf hit)

/-- the ids reported by the memory additions are the positions the memories are stored at -/
theorem c08_added_memory_ids (s : St) (uid : Nat) :
    (addImportMem s uid).2 = Ret.id2 s.m.items.length s.imports.length
    ∧ (addLocalMem s uid).2 = Ret.id s.m.items.length :=
  ⟨rfl, rfl⟩

/-- `c08_memory_refs` after **any** history of edits on a parsed module -/
theorem c08_memory_refs_after_any_history (s0 : St) (h0 : StInv s0) (ops : List Op) (hn : NoEncode ops) :
    let s := (run s0 ops).1
    (∃ s' F G M res st, encode s = (s', Ret.encoded F G M res st)
        ∧ (∀ r' ∈ res, r'.sp = Sp.M → ∃ r ∈ allRefs s, r'.site = r.site ∧ r.sp = Sp.M
            ∧ ∃ u, PointsTo s r u ∧ M[r'.idx]? = some u))
    ∨ (∃ s' why, encode s = (s', Ret.panic why) ∧ ∃ r ∈ allRefs s, Dangling s r) :=
  let h := spaceInv_after s0 h0 ops hn
  c08_memory_refs _ h.1 h.2.1 h.2.2

/-- **the uses of the memory map inside `encode_internal` this model was written against** (see `c06_function_map_uses_reviewed`):
    memory exports, the code loop (every operator with a memory immediate, through `fix_op_id_mapping`), the memory index of
    active data segments; constant expressions take the map but cannot mention a memory -/
theorem c08_memory_map_uses_reviewed :
    Orca.Gen.mapUsesMemory = ["resolve-special:memory:pass", "tables:memory:pass", "exports:memory:get", "elements:memory:pass", "elements:memory:pass", "code:memory:pass", "code:memory:pass", "code:memory:pass", "code:memory:pass", "code:memory:use", "code:memory:use", "data:memory:get"] := rfl

/-- **an id keeps designating its memory through every operation except its own deletion**, for every history: if position `j`
    of the memory vector holds `x`, then after any history that does not delete `j` (and does not encode) every emitted memory
    reference whose stored id is `j` designates `x.uid` in the encoded module, or the encoder fails loudly on a dangling reference.
    With `c30_returned_ids_designate` this covers the ids handed out by the additions. -/
theorem c08_ids_are_stable (s0 : St) (h0 : StInv s0) (j : Nat) (x : Item) (hx : s0.m.items[j]? = some x)
    (ops : List Op) (hs : ∀ o ∈ ops, o ≠ .encode ∧ o ≠ .deleteMem j) :
    let s := (run s0 ops).1
    (∃ s' F G M res st, encode s = (s', Ret.encoded F G M res st)
        ∧ (∀ r' ∈ res ++ st.toList, ∃ r ∈ allRefs s, r'.site = r.site ∧ r'.sp = r.sp
            ∧ (∃ u, PointsTo s r u ∧ designated F G M r' = some u)
            ∧ (r.sp = .M → r.idx = j → designated F G M r' = some x.uid)))
    ∨ (∃ s' why, encode s = (s', Ret.panic why) ∧ ∃ r ∈ allRefs s, Dangling s r) :=
  encode_designates s0 h0 .M j x hx ops (fun o ho => ⟨fun id h e => (hs o ho).2 (by rw [h, e]), (hs o ho).1⟩)

end Orca.Edit
