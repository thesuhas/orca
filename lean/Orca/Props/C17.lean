import Orca.Lemmas.SemSim
import Orca.Lemmas.Bridge
import Orca.Gen.ResolverOutline
import Orca.Model.ResolverOutlineSpec
import Orca.Lemmas.SemBranch
import Orca.Lemmas.StackFull
/-!
# C17 — function entry/exit probes fire once per call on every normal path

Monitor semantics of one activation (`runFunc … true`): the entry probes fire first; the exit probes fire when the body
falls off its end, when a branch reaches the function's label from any depth, immediately before a `return`, and
immediately before an explicit `unreachable`; they do not fire on other traps. `lowerF` is what the code emits: entry
probes, a wrapper block typed with the results around the body (only when there are exit probes), the exit probes behind
the wrapper's `end`, and the exit probes in front of every `return` / `unreachable`.
-/
namespace Orca.Sem

/-- the monitor's definition of "once per call on every normal path" -/
theorem c17_monitor_finish (F : Func) (base : List Nat) (s : St) :
    finish true F base (.normal s) = .returned (s.stack.take F.nres) ((s.fire F.endBefore).fire F.exit)
    ∧ (∀ pd, finish true F base (.br 0 pd s)
          = .returned (s.stack.take F.nres) (((s.exitTo base F.nres).fire (saPs pd)).fire F.exit))
    ∧ finish true F base (.ret s) = .returned (s.stack.take F.nres) s
    ∧ finish true F base (.trap s) = .trapped s := by
  simp [finish]

/-- `return` and `unreachable` fire the exit probes themselves, right after their own `before` probes -/
theorem c17_monitor_return (fns : List Callee) (fx b a : List Nat) (s : St) (f : Nat) :
    runOne fns true fx (f + 1) (.ret b a) s = .ret ((s.fire b).fire fx)
    ∧ runOne fns true fx (f + 1) (.unreachable b a) s = .trap ((s.fire b).fire fx) :=
  ⟨rfl, rfl⟩

/-- the entry probes are the first events of the activation -/
theorem c17_monitor_entry (fns : List Callee) (F : Func) (s : St) (f : Nat) :
    runFunc fns true f F s = finish true F s.stack (run fns true F.exit f F.body (s.fire F.entry)) := by
  simp [runFunc]

/-- **C17.** For every function whose body has no semantic-after on branches, every activation (empty operand stack)
    and every terminating monitored run: the lowered function, run with the monitor off, returns the same results or
    traps alike, with the same globals, memory and locals, and the same trace — entry probes once first, exit probes
    once on fall-through, on `return`, on a branch to the function label from any depth, and once before `unreachable`. -/
theorem c17_entry_exit (fns : List Callee) (F : Func) (hns : noSAL F.body = true) (s : St) (hs : s.stack = []) (f : Nat)
    (ok : (runFunc fns true f F s).ok = true) :
    ∃ g, runFunc fns false g (lowerF F) s = runFunc fns true f F s :=
  lowerF_sim F hns s hs f ok

/-- the same with semantic-after probes on branches in the function (scope of C20's branch theorem: annotated `br` /
    `br_if`, targets not in loops, not the function label; distinct flag locals, untouched by the program, 0 on entry):
    the lowered function reproduces results, traps, globals, memory and the whole trace — entry and exit probes at their defining
    moments included — and differs at most in the flag locals -/
theorem c17_entry_exit_with_branch_probes (fns : List Callee) (Fl : List Nat) (F : Func)
    (hsc : scopedL Fl F.body = true) (hnd : (flagsL F.body).Nodup) (hF : ∀ x ∈ flagsL F.body, x ∈ Fl)
    (hnoesc : ∀ d, pendingL d F.body = []) (s s' : St) (hs : s.stack = []) (hfe : FlagEq Fl s s')
    (hz : ∀ x ∈ flagsL F.body, flagIs s' x 0) (f : Nat) (ok : (runFunc fns true f F s).ok = true) :
    ∃ g, FOutRel Fl (runFunc fns true f F s) (runFunc fns false g (lowerF F) s') :=
  branch_lowerF_sim (fns := fns) Fl F hsc hnd hF hnoesc s s' hs hfe hz f ok

/-! non-vacuity, decided in the kernel. `exF k`: entry probe 1001, exit probe 1002, one result;
    k = 0 falls through, k = 1 returns from inside a block, k = 2 branches to the function label from depth 2,
    k = 3 hits `unreachable`. Each time the lowered code reports entry once and exit once. -/
def exF (k : Nat) : Func :=
  { entry := [1001], exit := [1002], nres := 1,
    body :=
      [ .probe 5,
        .block [] {} 0 "block"
          [ .block [] {} 0 "block"
              (if k = 1 then [.op [] [] (.const 11), .ret [] []]
               else if k = 2 then [.op [] [] (.const 12), .br [] [] none 2]
               else if k = 3 then [.unreachable [] []]
               else [.op [] [] .nop]) ],
        .probe 6, .op [] [] (.const 10) ] }
def exSt : St := { stack := [], locals := [], globals := [], mem := [], trace := [] }

def view : FOut → Option (List Nat × List Nat)
  | .returned r s => some (r, s.trace)
  | .trapped s => some ([], s.trace)
  | .stuck _ => none

example : view (runFunc [] false 50 (lowerF (exF 0)) exSt) = some ([10], [1001, 5, 6, 1002]) := by decide +kernel
example : view (runFunc [] false 50 (lowerF (exF 1)) exSt) = some ([11], [1001, 5, 1002]) := by decide +kernel
example : view (runFunc [] false 50 (lowerF (exF 2)) exSt) = some ([12], [1001, 5, 1002]) := by decide +kernel
example : view (runFunc [] false 50 (lowerF (exF 3)) exSt) = some ([], [1001, 5, 1002]) := by decide +kernel
example : view (runFunc [] true 50 (exF 2) exSt) = some ([12], [1001, 5, 1002]) := by decide +kernel
example : noSAL (exF 2).body = true ∧ (runFunc [] true 50 (exF 2) exSt).ok = true := by decide +kernel

end Orca.Sem

namespace Orca.Lower

/-- **Function entry / exit code in every plan (flat).** For a marked function whose body the machine accepts, whatever else is injected
    — block-level probes, block alternates, semantic-after probes on branches, any number, anywhere —, the encoded body is the one the
    complete machine `specRunF` computes, in which (`fnPre`) the entry code stands in front of instruction 0 (directly behind that
    instruction's own `before` code, followed by the opener of the wrapper block when there is exit code), and the exit code stands in
    front of every instruction that leaves the function (`return`, `return_call*`, `unreachable`, `throw*`) and — behind the `end` that
    closes the wrapper — in front of the function's final `end`. -/
theorem c17_function_code_placed_in_every_plan (f : Func) (hsp : f.hasSpecial = true) (hp : ∀ x ∈ f.body, PlainF x) (out : List Tok)
    (nlf : Nat) (hs : specRunF (f.body.length - 1) (entryToks f) f.exit 0 [{}] none f.nlocals f.body = some (out, nlf)) :
    lower f = (out, f.added + (nlf - f.nlocals)) :=
  lower_eq_specF f hsp hp out nlf hs

/-- where exactly: the function-level code in front of instruction `idx` (the definition the theorem above refers to, unfolded) -/
theorem c17_function_code_positions (last : Nat) (E X : List Tok) (idx : Nat) (i : Instr) :
    fnPre last E X idx i
      = (if idx = 0 then E else [])
        ++ (if X.isEmpty then [] else if i.kind = .exitLike then X else if idx = last then tEnd :: X else []) := rfl

/-- **No function-level code is dropped**: every token of the entry code and of the exit code is in the encoded body, for every plan on a
    non-empty body the machine accepts -/
theorem c17_entry_exit_code_never_lost (f : Func) (hsp : f.hasSpecial = true) (hp : ∀ x ∈ f.body, PlainF x) (out : List Tok)
    (nlf : Nat) (hne : f.body ≠ [])
    (hs : specRunF (f.body.length - 1) (entryToks f) f.exit 0 [{}] none f.nlocals f.body = some (out, nlf)) :
    (∀ t ∈ f.entry, t ∈ (lower f).1) ∧ (∀ t ∈ f.exit, t ∈ (lower f).1) :=
  lower_keeps_fn f hsp hp out nlf hne hs

/-! non-vacuity (decided): exit code in front of a `return` inside a block and in front of the final `end`; entry code and the wrapper
    opener in front of instruction 0, behind its own `before` code -/
private def mkI17 (t : Tok) (k : Kind) : Instr := { tok := t, kind := k }
set_option maxRecDepth 20000 in
example :
    let body : List Instr :=
      [{ mkI17 "block" .block with before := ["B0"], blockExit := ["X1"] }, mkI17 "return" .exitLike, mkI17 "end" .end_, mkI17 "end" .end_]
    let f : Func := { body := body, hasSpecial := true, entry := ["EN"], exit := ["EX"] }
    specRunF 3 (entryToks f) f.exit 0 [{}] none 0 body
      = some (["B0", "EN", "block:functype", "block", "EX", "return", "X1", "end", "end", "EX", "end"], 0)
    ∧ (lower f).1 = ["B0", "EN", "block:functype", "block", "EX", "return", "X1", "end", "end", "EX", "end"] := by
  decide +kernel

end Orca.Lower

/-- **The tie to the source (regenerated on every run).** The skeletons of `resolve_function_entry`,
    `resolve_function_exit_with_block_wrapper` and `resolve_function_exit` — which operators count as leaving the function, where the
    exit code goes, the early `return`, the `end` of the wrapper at the last instruction — are what the function-level part of `rstep` and the
    entry code of `resolveSpecial` were transcribed from. -/
theorem c17_function_level_code_reviewed :
    Orca.Gen.Outline.resolve_function_entry = Orca.Lower.Outline.resolve_function_entry
    ∧ Orca.Gen.Outline.resolve_function_exit_with_block_wrapper = Orca.Lower.Outline.resolve_function_exit_with_block_wrapper
    ∧ Orca.Gen.Outline.resolve_function_exit = Orca.Lower.Outline.resolve_function_exit :=
  ⟨rfl, rfl, rfl⟩

/-- The code's lowering (M3 `Lower.lower`: `resolve_special_instrumentation` and the emission loop) of the flattened function `flatF F nl`
    emits the tree lowering's tokens, `flattenF (lowerF F)` = `toksL (lowerF F).body ++ ["end"]`, and adds one local per flagged branch. Scope:
    `okL`, branch depths inside the function, flags numbered from `nl`, no `entry` / `exit` code beside `before` code on instruction 0 (Lemmas/Bridge.lean). -/
theorem c17_code_lowering_is_tree_lowering (F : Orca.Sem.Func) (nl : Nat) (hok : Orca.Bridge.okL F.body = true)
    (hd : Orca.Bridge.depthOkL 1 F.body = true)
    (hnum : Orca.Sem.flagsL F.body = List.range' nl (Orca.Sem.flagsL F.body).length)
    (hfirst : (F.entry = [] ∧ F.exit = []) ∨ ((Orca.Bridge.flatF F nl).body.head?.map (·.before)) = some []) :
    Orca.Lower.lower (Orca.Bridge.flatF F nl)
      = (Orca.SemTree.flattenF (Orca.Sem.lowerF F), (Orca.Sem.flagsL F.body).length) :=
  Orca.Bridge.code_lowering_is_flattened_tree_lowering F nl hok hd hnum hfirst
