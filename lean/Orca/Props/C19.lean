import Orca.Lemmas.SemSim
import Orca.Lemmas.Bridge
import Orca.Gen.ResolverOutline
import Orca.Model.ResolverOutlineSpec
import Orca.Lemmas.SemBranch
import Orca.Lemmas.OneProbe
import Orca.Lemmas.StackSpec
/-!
# C19 — block exit probes fire when the block or arm falls through

Monitor semantics: the `exit` slot of a body (block, loop, then-arm, else-arm) fires when that body *falls through to
its end* (`leaveBlock … (.normal s)`, the `.normal` case of a loop) — never when the construct is left by a branch, a
return or a trap. `lower` places the probes in front of the body's own `else` / `end`, which is where the code places
them (after the repair of F13 the pending bodies of an `if` are keyed by its block id).
-/
namespace Orca.Sem

/-- the monitor's definition: falling through fires `exit` (then the construct's semantic-after); a branch out of the
    construct, a branch to its label, `return` and traps do not fire `exit` -/
theorem c19_monitor_exit (ann : Ann) (base : List Nat) (a : Nat) (s : St) :
    leaveBlock true ann base a (.normal s) = .normal ((s.fire ann.exit).fire ann.after)
    ∧ (∀ pd, leaveBlock true ann base a (.br 0 pd s) = .normal (((s.exitTo base a).fire (saPs pd)).fire ann.after))
    ∧ (∀ n pd, leaveBlock true ann base a (.br (n + 1) pd s) = .br n pd s)
    ∧ leaveBlock true ann base a (.ret s) = .ret s
    ∧ leaveBlock true ann base a (.trap s) = .trap s := by
  simp [leaveBlock]

/-- an `if` applies the rule of `c19_monitor_exit` to the arm that runs, with the exit probes *of that arm* -/
theorem c19_monitor_if (fns : List Callee) (fx b : List Nat) (annT annE : Ann) (a : Nat) (tk : Tok) (t e : List Instr) (he : Bool)
    (s : St) (v : Nat) (st : List Nat) (f : Nat) (hs : s.stack = v :: st) :
    runOne fns true fx (f + 1) (.ite b annT annE a tk t e he) s =
      if v ≠ 0 then
        leaveBlock true { annT with after := annT.after ++ annE.after } st a
          (run fns true fx f t (({ (s.fire b) with stack := st } : St).fire annT.entry))
      else
        leaveBlock true { annE with after := annT.after ++ annE.after } st a
          (run fns true fx f e (({ (s.fire b) with stack := st } : St).fire annE.entry)) := by
  rw [runOne_ite hs]
  split <;> rfl

/-- **C19.** The lowered program, monitor off, reproduces the monitored outcome and trace: every block-exit probe fires
    exactly when its body falls through, at no other place. (Programs without semantic-after on branches; those are C20.) -/
theorem c19_block_exit (fns : List Callee) (fx : List Nat) (f : Nat) (p : List Instr) (s : St) (o : Out)
    (hns : noSAL p = true) (h : run fns true fx f p s = o) (ok : o.ok = true) :
    ∃ g, run fns false [] g (lowerL fx p) s = o :=
  lower_sim_run hns h ok

/-- the same with semantic-after probes on branches in the function (scope of C20's branch theorem: annotated `br` /
    `br_if`, targets not in loops, not the function label; distinct flag locals, untouched by the program, 0 on entry):
    the lowered function reproduces results, traps, globals, memory and the whole trace — block exit probes at their defining
    moments included — and differs at most in the flag locals -/
theorem c19_exit_with_branch_probes (fns : List Callee) (Fl : List Nat) (F : Func)
    (hsc : scopedL Fl F.body = true) (hnd : (flagsL F.body).Nodup) (hF : ∀ x ∈ flagsL F.body, x ∈ Fl)
    (hnoesc : ∀ d, pendingL d F.body = []) (s s' : St) (hs : s.stack = []) (hfe : FlagEq Fl s s')
    (hz : ∀ x ∈ flagsL F.body, flagIs s' x 0) (f : Nat) (ok : (runFunc fns true f F s).ok = true) :
    ∃ g, FOutRel Fl (runFunc fns true f F s) (runFunc fns false g (lowerF F) s') :=
  branch_lowerF_sim (fns := fns) Fl F hsc hnd hF hnoesc s s' hs hfe hz f ok

/-! non-vacuity, decided in the kernel: an `if` whose then-arm contains a nested block (the shape of the repaired defect
    F13): the exit probe 1002 fires once, after the nested block *and* the rest of the arm; when the arm is left by a
    branch it does not fire -/
def exNested (leave : Bool) : List Instr :=
  [ .op [] [] (.const 1),
    .ite [] { exit := [1002] } {} 0 "if"
      ([ .block [] {} 0 "block" [.op [] [] .nop], .probe 7 ] ++ (if leave then [.br [] [] none 0] else []))
      [] false,
    .probe 8 ]
def exSt : St := { stack := [], locals := [], globals := [], mem := [], trace := [] }

example : (match run [] false [] 50 (lowerL [] (exNested false)) exSt with | .normal s => s.trace | _ => [0]) = [7, 1002, 8] := by decide +kernel
example : (match run [] false [] 50 (lowerL [] (exNested true)) exSt with | .normal s => s.trace | _ => [0]) = [7, 8] := by decide +kernel
example : (match run [] true [] 50 (exNested true) exSt with | .normal s => s.trace | _ => [0]) = [7, 8] := by decide +kernel

/-- the flat-code statement for M3, the transcription of the resolver (every body; `Lemmas/OneProbe.lean`): a block-exit probe on
    a `block` / `loop` is encoded in front of the construct's matching `end` (for an `else`: `c22_else_probes_reach_output`) -/
theorem c19_flat_block_exit_placed (f : Orca.Lower.Func) (pre region post : List Orca.Lower.Instr) (sel endI : Orca.Lower.Instr)
    (pr : List Orca.Lower.Tok) (hbody : f.body = pre ++ sel :: region ++ endI :: post) (hpne : post ≠ [])
    (hsp : f.hasSpecial = true) (hentry : f.entry = []) (hexit : f.exit = [])
    (hpre : ∀ x ∈ pre, Orca.Lower.Clean x) (hreg : ∀ x ∈ region, Orca.Lower.Clean x) (hend : Orca.Lower.Clean endI)
    (hpost : ∀ x ∈ post, Orca.Lower.Clean x) (hsel : Orca.Lower.OnlyExit sel pr) (hk : sel.kind = .block ∨ sel.kind = .loop)
    (hendk : endI.kind = .end_) (n n2 : Nat) (hd1 : Orca.Lower.depthAfter pre 1 = some n)
    (hd2 : Orca.Lower.depthAfter region 0 = some 0) (hd3 : Orca.Lower.depthAfter post n = some n2) :
    Orca.Lower.lower f = (Orca.Lower.toks pre ++ [sel.tok] ++ Orca.Lower.toks region ++ pr ++ [endI.tok] ++ Orca.Lower.toks post, f.added) :=
  Orca.Lower.blockExit_placed f pre region post sel endI pr hbody hpne hsp hentry hexit hpre hreg hend hpost hsel hk hendk n n2 hd1 hd2 hd3

/-- the flat-code statement for a block-exit probe on an `if` (every body): in front of the `else` of that `if`, or of its `end` when it
    has no `else`, whatever is nested in the then-arm (F13: a nested construct in the then-arm) -/
theorem c19_flat_block_exit_placed_if (f : Orca.Lower.Func) (pre arm rest : List Orca.Lower.Instr) (sel closer : Orca.Lower.Instr)
    (pr : List Orca.Lower.Tok) (hbody : f.body = pre ++ sel :: arm ++ closer :: rest) (hrne : rest ≠ [])
    (hsp : f.hasSpecial = true) (hentry : f.entry = []) (hexit : f.exit = [])
    (hpre : ∀ x ∈ pre, Orca.Lower.Clean x) (harm : ∀ x ∈ arm, Orca.Lower.Clean x) (hcl : Orca.Lower.Clean closer)
    (hrest : ∀ x ∈ rest, Orca.Lower.Clean x) (hsel : Orca.Lower.OnlyExit sel pr) (hk : sel.kind = .if_)
    (hck : closer.kind = .else_ ∨ closer.kind = .end_)
    (n n2 : Nat) (hd1 : Orca.Lower.depthAfter pre 1 = some n) (hd2 : Orca.Lower.depthAfterE arm 0 = some 0)
    (hd3 : Orca.Lower.depthAfter rest (if closer.kind = .else_ then n + 1 else n) = some n2) :
    Orca.Lower.lower f = (Orca.Lower.toks pre ++ [sel.tok] ++ Orca.Lower.toks arm ++ pr ++ [closer.tok] ++ Orca.Lower.toks rest, f.added) :=
  Orca.Lower.blockExit_placed_if f pre arm rest sel closer pr hbody hrne hsp hentry hexit hpre harm hcl hrest hsel hk hck n n2 hd1 hd2 hd3

end Orca.Sem

namespace Orca.Lower

/-- **flat code, every plan.** Not only a single probe (`…_placed` above): for any number of block-exit probes, together with any other
    block-level probes and `before` / `after` code, on any constructs nested in any way, the encoded function is what the stack machine
    `specRun` defines (Lemmas/StackSpec.lean), which puts block-exit code in front of the matching `end`; of an `if`: in front of its own `else`, or of its `end` when it has none (`specStep`: the frame's `ifExit` / `exitB` lists are emitted in front of the `else` / `end` that pops or continues the frame). -/
theorem c19_flat_every_plan (f : Func) (hsp : f.hasSpecial = true) (hentry : f.entry = []) (hexit : f.exit = [])
    (hp : ∀ x ∈ f.body, Plain x) (out : List Tok) (hs : specRun (f.body.length - 1) 0 [{}] f.body = some out) :
    lower f = (out, f.added) :=
  lower_eq_spec f hsp hentry hexit hp out hs

end Orca.Lower

/-- **The tie to the source (regenerated on every run).** The skeletons of `plan_resolution_block_exit` and of the two functions that
    park an unflagged body are what the block-exit stage of `planSpecial` was transcribed from. -/
theorem c19_block_exit_code_reviewed :
    Orca.Gen.Outline.plan_resolution_block_exit = Orca.Lower.Outline.plan_resolution_block_exit
    ∧ Orca.Gen.Outline.save_not_flagged_body_to_resolve = Orca.Lower.Outline.save_not_flagged_body_to_resolve
    ∧ Orca.Gen.Outline.save_not_flagged_body_to_resolve_inner = Orca.Lower.Outline.save_not_flagged_body_to_resolve_inner :=
  ⟨rfl, rfl, rfl⟩

/-- The code's lowering (M3 `Lower.lower`: `resolve_special_instrumentation` and the emission loop) of the flattened function `flatF F nl`
    emits the tree lowering's tokens, `flattenF (lowerF F)` = `toksL (lowerF F).body ++ ["end"]`, and adds one local per flagged branch. Scope:
    `okL`, branch depths inside the function, flags numbered from `nl`, no `entry` / `exit` code beside `before` code on instruction 0 (Lemmas/Bridge.lean). -/
theorem c19_code_lowering_is_tree_lowering (F : Orca.Sem.Func) (nl : Nat) (hok : Orca.Bridge.okL F.body = true)
    (hd : Orca.Bridge.depthOkL 1 F.body = true)
    (hnum : Orca.Sem.flagsL F.body = List.range' nl (Orca.Sem.flagsL F.body).length)
    (hfirst : (F.entry = [] ∧ F.exit = []) ∨ ((Orca.Bridge.flatF F nl).body.head?.map (·.before)) = some []) :
    Orca.Lower.lower (Orca.Bridge.flatF F nl)
      = (Orca.SemTree.flattenF (Orca.Sem.lowerF F), (Orca.Sem.flagsL F.body).length) :=
  Orca.Bridge.code_lowering_is_flattened_tree_lowering F nl hok hd hnum hfirst
