import Orca.Gen.RefTables
import Orca.Gen.ApiOutline
import Orca.Model.ApiOutlineSpec
import Orca.Lemmas.Ops
import Orca.Lemmas.Preserve
import Orca.Lemmas.Redirect
import Orca.Gen.MapSites
/-!
# C07 — global references stay bound to the same global across edits
Shares the index-space theorems of C06 (`Orca.Edit.encode_spec`); this file adds the global-specific parts:
the operator tables, and the ids reported by the three ways of adding a global.
-/
namespace Orca.Gen

/-- `refers_to_global` recognises exactly the operators with a global immediate (`global.get/set` and the eleven
    atomic global operators), and `update_global_instr` rewrites it -/
theorem c07_global_ref_ops_complete : ∀ op : Op, wirmRefersGlobal op = specGlobal op
    ∧ wirmUpdatedGlobalFields op = (if specGlobal op then 1 else 0) := by
  intro op; unfold wirmRefersGlobal wirmUpdatedGlobalFields specGlobal; split <;> simp

example : wirmRefersGlobal .GlobalAtomicRmwCmpxchg = true ∧ wirmRefersGlobal .LocalGet = false := by decide

end Orca.Gen

namespace Orca.Edit
open Orca.Reindex

/-- every emitted global reference (code, injected code, global exports, `global.get` in global, data, element and
    table initialisers) designates the live global its stored id designated, or encoding fails loudly -/
theorem c07_global_refs (s : St) (hf : SpaceInv s.f s.imports .F) (hg : SpaceInv s.g s.imports .G)
    (hm : SpaceInv s.m s.imports .M) :
    (∃ s' F G M res st, encode s = (s', Ret.encoded F G M res st)
        ∧ (∀ r' ∈ res, r'.sp = Sp.G → ∃ r ∈ allRefs s, r'.site = r.site ∧ r.sp = Sp.G
            ∧ ∃ u, PointsTo s r u ∧ G[r'.idx]? = some u))
    ∨ (∃ s' why, encode s = (s', Ret.panic why) ∧ ∃ r ∈ allRefs s, Dangling s r) :=
  encode_spec_space .G s hf hg hm

/-- the id reported by each way of adding a global — `add_global`, the iterators' `add_global`,
    `add_imported_global` — is the position at which the global is stored, whatever was added before and however -/
theorem c07_added_global_ids (s : St) (uid : Nat) (sites : List Ref) :
    (addGlobal s uid sites).2 = Ret.id s.g.items.length
    ∧ (iterAddGlobal s uid sites).2 = Ret.id s.g.items.length
    ∧ (addImportedGlobal s uid).2 = Ret.id2 s.g.items.length s.imports.length
    ∧ (addImportedGlobal s uid).1.g.items[s.g.items.length]?
        = some { id := s.g.items.length, imp := true, del := false, uid := uid, impId := s.imports.length } := by
  exact ⟨rfl, rfl, rfl, List.getElem?_concat_length⟩

/-- **a reported id is new.** With stored ids equal to positions (`IdsFresh`, a clause of the state invariant of every state reached
    from a parsed module before an encode), the id reported for an added global - the length of the vector - is held by no entity of
    the space, live or deleted: the caller never ends up with one id for two globals. (The `edit` family judges exactly this on the
    crate: signature `G-returned-id-already-in-use`.) -/
theorem c07_reported_id_is_new (s : St) (hf : IdsFresh s.g.items) (it : Item) (hit : it ∈ s.g.items) :
    it.id ≠ s.g.items.length :=
  Nat.ne_of_lt (idsFresh_id_lt hf hit)

/-- regression for F10: an iterator-added global followed by an imported global -/
example : let s0 : St := { g := { items := [⟨0, false, false, 7, 0⟩] } }
    ((addImportedGlobal (iterAddGlobal s0 8 []).1 9).2 matches Ret.id2 2 0) = true := by decide

/-- `c07_global_refs` after **any** history of edits on a parsed module -/
theorem c07_global_refs_after_any_history (s0 : St) (h0 : StInv s0) (ops : List Op) (hn : NoEncode ops) :
    let s := (run s0 ops).1
    (∃ s' F G M res st, encode s = (s', Ret.encoded F G M res st)
        ∧ (∀ r' ∈ res, r'.sp = Sp.G → ∃ r ∈ allRefs s, r'.site = r.site ∧ r.sp = Sp.G
            ∧ ∃ u, PointsTo s r u ∧ G[r'.idx]? = some u))
    ∨ (∃ s' why, encode s = (s', Ret.panic why) ∧ ∃ r ∈ allRefs s, Dangling s r) :=
  let h := spaceInv_after s0 h0 ops hn
  c07_global_refs _ h.1 h.2.1 h.2.2

/-- **the uses of the global map inside `encode_internal` this model was written against** (see `c06_function_map_uses_reviewed`):
    table initialisers, global initialisers, global exports, element expressions and offsets, the code loop, data offsets,
    the global names -/
theorem c07_global_map_uses_reviewed :
    Orca.Gen.mapUsesGlobal = ["resolve-special:global:pass", "tables:global:pass", "globals:global:pass", "exports:global:get", "elements:global:pass", "elements:global:pass", "code:global:pass", "code:global:pass", "code:global:pass", "code:global:pass", "code:global:use", "code:global:use", "data:global:pass", "names:global:get"] := rfl

/-- **an id keeps designating its global through every operation except its own deletion**, for every history: if position `j`
    of the global vector holds `x`, then after any history that does not delete `j` (and does not encode) every emitted global
    reference whose stored id is `j` designates `x.uid` in the encoded module, or the encoder fails loudly on a dangling reference.
    With `c30_returned_ids_designate` this covers the ids handed out by the additions. -/
theorem c07_ids_are_stable (s0 : St) (h0 : StInv s0) (j : Nat) (x : Item) (hx : s0.g.items[j]? = some x)
    (ops : List Op) (hs : ∀ o ∈ ops, o ≠ .encode ∧ o ≠ .deleteGlobal j) :
    let s := (run s0 ops).1
    (∃ s' F G M res st, encode s = (s', Ret.encoded F G M res st)
        ∧ (∀ r' ∈ res ++ st.toList, ∃ r ∈ allRefs s, r'.site = r.site ∧ r'.sp = r.sp
            ∧ (∃ u, PointsTo s r u ∧ designated F G M r' = some u)
            ∧ (r.sp = .G → r.idx = j → designated F G M r' = some x.uid)))
    ∨ (∃ s' why, encode s = (s', Ret.panic why) ∧ ∃ r ∈ allRefs s, Dangling s r) :=
  encode_designates s0 h0 .G j x hx ops (fun o ho => ⟨fun id h e => (hs o ho).2 (by rw [h, e]), (hs o ho).1⟩)

end Orca.Edit

/-- **The tie to the source (regenerated on every run).** The control-and-call skeletons of the functions this property rests on:
    `add_import` and `add_imported_global_with_tag` (where the reported id comes from) are what M2's additions were transcribed from. A step moved, an early exit, guard, call or assignment added or removed breaks this obligation; renaming, comments and
    formatting do not. -/
theorem c07_import_addition_code_reviewed :
    Orca.Gen.ApiOutline.add_import = Orca.ApiOutlineSpec.add_import
    ∧ Orca.Gen.ApiOutline.add_imported_global_with_tag = Orca.ApiOutlineSpec.add_imported_global_with_tag :=
  ⟨rfl, rfl⟩
