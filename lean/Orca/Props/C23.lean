import Orca.Lemmas.SideFx
import Orca.Gen.SideFxSites
import Orca.Model.SideFxSitesSpec
/-!
# C23 — the side-effect report lists exactly the tagged additions and probes

Model M12 (`Orca.SideFx`) over M2 (`Orca.Edit`): every vector `encode_internal` walks, with the tag each entry carries
(`none` for what the parser built), and `pull`, which emits a record wherever the encoder calls `add_injection`.

Proved, for **every** parsed module `b` and **every** history `ops` (any length, any interleaving of additions,
deletions and probes):

* nothing the parser built is ever reported (`c23_parsed_items_not_reported`): the report equals the report of the
  additions alone;
* each addition that is given a tag appends exactly one record with that tag and that content to the report of its kind
  and leaves the other kinds alone (`c23_addition_reported_once`), an addition without a tag appends none, a signature
  the module already has is not an addition;
* a deletion takes exactly the record of the deleted entry out of the records of its kind (and, for a function, the record of its
  import entry out of the import records) (`c23_deletion_unreports`);
* probe lists are reported once each (`c23_one_record_per_probe_list`) and a probe changes no record of an addition;
* the body of every plain-mode probe record is a contiguous run of the code its function is encoded with, written
  through the same id maps (`c23_probe_body_is_emitted_code`) — the "same index space" clause.

PARTIAL on one point, stated: where the *special* modes (semantic_after, block_entry / exit / alt, function entry / exit)
are lowered to is M3's subject and is not repeated in M12, so the last theorem covers before / after / alternate lists
only; function entry / exit bodies and the loss of the tags of block-level lists (finding F25) are compared and judged
per case.
-/
namespace Orca.SideFx

/-- **no record for what was already in the parsed module.** After any history, the report is the report of the state
    with every parsed entry removed. -/
theorem c23_parsed_items_not_reported (m : Maps) (b : Base) (ops : List Op) :
    pullWith m (run (init b) ops) = pullWith m (additions b (run (init b) ops)) :=
  pullWith_additions m b _ (inv_run b ops _ (inv_init b))

/-- **one record per tagged addition, with its tag and content.** In any state: -/
theorem c23_addition_reported_once (m : Maps) (s : St) :
    (∀ k uid tag, importRecs (step s (.addImport k uid tag)) = importRecs s ++ [.import uid k tag]
        ∧ funcRecs (step s (.addImport k uid tag)) = funcRecs s
        ∧ globalRecs m (step s (.addImport k uid tag)) = globalRecs m s
        ∧ memRecs (step s (.addImport k uid tag)) = memRecs s)
    ∧ (∀ uid sig tag body, funcRecs (step s (.addFunc uid sig tag body))
        = funcRecs s ++ [.func uid s.funcs.length sig (body.flatMap rawTok) tag])
    ∧ (∀ uid tag get, globalRecs m (step s (.addGlobal uid tag get))
        = globalRecs m s ++ [.global uid s.globals.length (get.map (emitTok m)) tag])
    ∧ (∀ uid tag, memRecs (step s (.addMem uid tag)) = memRecs s ++ [.memory uid s.mems.length tag])
    ∧ (∀ site idx tag, exportRecs (step s (.addExport site idx tag))
        = exportRecs s ++ (tag.map (Rec.export s.exports.length idx)).toList)
    ∧ (∀ p bts tag, dataRecs (step s (.addData p bts tag)) = dataRecs s ++ (tag.map (Rec.data p bts)).toList)
    ∧ (∀ sig tag, typeRecs (step s (.addType sig tag))
        = typeRecs s ++ (if s.types.any (·.1 == sig) then [] else (tag.map (Rec.type sig)).toList)) :=
  ⟨fun k uid tag => ⟨importRecs_addImport s k uid tag, funcRecs_addImport s k uid tag, globalRecs_addImport m s k uid tag,
      memRecs_addImport s k uid tag⟩,
   funcRecs_addFunc s, globalRecs_addGlobal m s, memRecs_addMem s, exportRecs_addExport s, dataRecs_addData s,
   fun sig tag => typeRecs_addType s.types sig tag⟩

/-- **a deleted addition is no longer reported — and nothing else of its kind disappears**: the records of the kind are those of the
    vector without the deleted entry (for a function also: the import records are those without its import entry) -/
theorem c23_deletion_unreports (m : Maps) (s : St) :
    (∀ id (hi : id < s.funcs.length), funcRecs (step s (.delFunc id)) = (s.funcs.eraseIdx id).filterMap funcRec?
        ∧ (s.funcs[id].impPos < s.imports.length → importRecs (step s (.delFunc id))
            = if s.funcs[id].imp then (s.imports.eraseIdx s.funcs[id].impPos).filterMap importRec? else importRecs s))
    ∧ (∀ id, id < s.globals.length →
        globalRecs m (step s (.delGlobal id)) = (s.globals.eraseIdx id).filterMap (globalRec? m))
    ∧ (∀ pos, pos < s.exports.length → exportRecs (step s (.delExport pos)) = (s.exports.eraseIdx pos).filterMap exportRec?) :=
  ⟨fun id hi => ⟨funcRecs_delFunc s id hi, importRecs_delFunc s id hi⟩, globalRecs_delGlobal m s, exportRecs_delExport s⟩

/-- **one record per probe list.** After any history there is one list per (function, location, mode), and the probe part
    of the report is a permutation of one record per non-empty plain-mode or function-level list. -/
theorem c23_one_record_per_probe_list (m : Maps) (b : Base) (ops : List Op) :
    KeysUnique (run (init b) ops).probes
      ∧ (probeRecs m (run (init b) ops)).Perm (((run (init b) ops).probes.filter reported).map (probeRec m)) :=
  ⟨keysUnique_history b ops, probeRecs_perm m _⟩

theorem c23_probe_changes_no_addition_record (m : Maps) (s : St) (fid : Nat) (key : PKey) (tag : Option Tag) (body : List RefTok) :
    let s' := step s (.probe fid key tag body)
    typeRecs s' = typeRecs s ∧ importRecs s' = importRecs s ∧ exportRecs s' = exportRecs s ∧ memRecs s' = memRecs s
      ∧ dataRecs s' = dataRecs s ∧ globalRecs m s' = globalRecs m s ∧ funcRecs s' = funcRecs s := by
  simp [step, typeRecs, importRecs, exportRecs, memRecs, dataRecs, globalRecs, funcRecs]

/-- **probe bodies are in the index space of the encoded module.** After any history, the body reported for a
    before / after / alternate list is a contiguous run of the code the function is encoded with (`emitFunc`: per
    instruction the `before` list, the alternate or the instruction, the `after` list, every reference written through
    the id maps `m` of this encode) — for every instruction list `code` of the function that has the location. -/
theorem c23_probe_body_is_emitted_code (m : Maps) (b : Base) (ops : List Op) (p : Probe)
    (hp : p ∈ (run (init b) ops).probes) (idx mode : Nat) (hk : p.key = .loc idx mode) (hm : mode ≤ 2)
    (code : List (List Tok)) (hi : idx < code.length) :
    probeRec m p = .locProbe (m.f p.fid) idx mode (emitBody m p.body) (p.tag.getD [])
      ∧ emitBody m p.body <:+: emitFunc m (run (init b) ops).probes p.fid code := by
  refine ⟨by simp [probeRec, hk], ?_⟩
  exact body_infix_emitFunc m (keysUnique_history b ops) hp hk hm code hi

/-! non-vacuity (decided): a module with one imported and one local function, an imported global and an export; the history
    adds a tagged import (renumbering the local function 1 ↦ 2), a tagged global, an untagged export, deletes nothing, and
    injects a tagged `before` probe that calls the local function and a second one into the same list -/
def exBase : Base := { nif := 1, nlf := 1, nig := 1, nlg := 0, nim := 0, nlm := 0, types := [0], exports := [1], ndata := 0 }
def exOps : List Op :=
  [ .addImport .F 3 [0xa1], .addGlobal 4 [0xa2] (some (.gget 1 0)), .addExport 2 1 none,
    .probe 1 (.loc 2 0) (some [0xa3]) [.const 1, .call 3 1], .probe 1 (.loc 2 0) (some [0xa4]) [.const 2] ]

example : (pull (run (init exBase) exOps)).map (fun r => (r.imports, r.globals, r.exports, r.funcs, r.probes))
    = some ([.import 3 .F [0xa1]], [.global 4 1 (some [.gget 0, .drop]) [0xa2]], [], [],
            [.locProbe (some 2) 2 0 [.const 1, .drop, .call 2, .const 2, .drop] [0xa3, 0xa4]]) := by decide +kernel

end Orca.SideFx

namespace Orca.SideFxSitesSpec
open Orca.Gen.SideFxSites

/-- **The tie to the source (regenerated on every run).** Every call of `add_injection` in the crate: the function it stands in, the
    key it files under, the record variant and the fields it fills; and the (mode, list) pairs the two probe closures are called with.
    A new site, a removed one, another key, a dropped field or a swapped pair breaks this obligation. -/
theorem c23_record_sites_reviewed :
    Orca.Gen.SideFxSites.sites = Orca.SideFxSitesSpec.sites
    ∧ Orca.Gen.SideFxSites.probeCalls = Orca.SideFxSitesSpec.probeCalls :=
  ⟨rfl, rfl⟩

/-- what M12 assumes of those sites, decided on the regenerated list: every record is filed under the key of its own kind, and
    every record carries a tag -/
theorem c23_records_filed_under_their_kind :
    ∀ s ∈ Orca.Gen.SideFxSites.sites, keyOf s.record = some s.key ∧ "tag" ∈ s.fields := by
  decide +kernel

/-- every kind of addition the property lists has exactly one place where its record is written (data: one per segment kind), all of
    them inside `encode_internal`, i.e. while the item is being written into the output under its final index -/
theorem c23_one_site_per_kind :
    (Orca.Gen.SideFxSites.sites.filter (fun s => s.fn == "encode_internal")).map (·.record)
      = ["Type", "Import", "Func", "Table", "Memory", "Global", "Export", "Element", "PassiveData", "ActiveData"]
    ∧ (Orca.Gen.SideFxSites.sites.filter (fun s => s.fn != "encode_internal")).map (fun s => (s.fn, s.record))
      = [("add_injections", "FuncProbe"), ("add_injections", "FuncLocProbe")] := by
  decide +kernel

/-- the probe closures pair each mode with the list of the same name (`alt` is the unwrapped `alternate`) -/
theorem c23_probe_modes_paired :
    Orca.Gen.SideFxSites.probeCalls.map (fun c => (c.2.2.1, c.2.2.2))
      = [("Entry", "entry"), ("Exit", "exit"), ("Before", "before"), ("After", "after"), ("Alternate", "alt")] := by
  decide +kernel

end Orca.SideFxSitesSpec
