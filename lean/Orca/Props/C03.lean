import Orca.Model.Parse
import Orca.Lemmas.Comp
import Orca.Gen.DefTypes
/-!
# C03 — parsing never panics

Model M11 (`Orca.Parse`): wirm's own control flow in `Module::parse_internal` over the facts it reads (events extracted
with wasmparser alone by harness/src/parse_facts.rs), with a `panic` leaf at every place where the Rust code indexes,
looks up or subtracts. The statement below is for **every** event list — well-formed or not, in any order, of any length.

PARTIAL by nature: panics inside wasmparser / wasm-encoder and allocation failure are outside any model of wirm's code; the
`parse` family (byte-level mutants of modules and components, hostile hand-built sections, random bytes, three parsers each,
the risky ones in child processes) samples them. Stack exhaustion by recursion is wirm's own doing and is modelled:
`c03_component_nesting_bounded` (M10, the recursion of `parse_comp` over nested components is bounded by a constant).
-/
namespace Orca.Parse

theorem step_never_panics (s : PS) (e : Ev) (site : String) : step s e ≠ .inl (.panic site) := by
  -- down to the leaves of `step`: each is an `.err` or a state
  unfold step
  repeat' split
  all_goals nofun

/-- the function-building loop indexes `functions[index]` only below `functions.len()` -/
theorem buildFuncs_never_panics (s : PS) : ∀ k, k ≤ s.funcs.length → ∀ site, buildFuncs s k ≠ .panic site
  | 0, _, _ => by simp [buildFuncs]
  | k + 1, hk, site => by
    have ih := buildFuncs_never_panics s k (by omega)
    simp only [buildFuncs]
    cases hb : buildFuncs s k with
    | ok =>
      simp only
      have hlt : k < s.funcs.length := by omega
      rw [List.getElem?_eq_getElem hlt]
      simp only
      split <;> simp
    | err w => simp
    | panic w => exact absurd hb (ih w)

/-- the checks on the section counts are what makes the indexing safe -/
theorem finish_never_panics (s : PS) (site : String) : finish s ≠ .panic site := by
  unfold finish
  split
  · simp
  · rename_i h
    have hb : s.bodies ≤ s.funcs.length := by
      simp only [bne_iff_ne, ne_eq, Bool.or_eq_true, not_or, Decidable.not_not] at h
      omega
    cases hd : s.dataDeclared with
    | none => simp only; exact buildFuncs_never_panics s _ hb site
    | some n =>
      simp only
      split
      · simp
      · exact buildFuncs_never_panics s _ hb site

/-- Whatever the input made of events, `parse_internal` returns a module or an error -/
theorem c03_parse_never_panics (evs : List Ev) (site : String) : parseM evs ≠ .panic site := by
  unfold parseM
  generalize ({} : PS) = s
  induction evs generalizing s with
  | nil => exact finish_never_panics s site
  | cons e es ih =>
    simp only [run]
    cases hs : step s e with
    | inl o =>
      simp only
      intro h; subst h
      exact step_never_panics s e site hs
    | inr s' => exact ih s'

/-- constant expressions: exactly the operators `eval` has an arm for are accepted (table regenerated from the source);
    the extended-const arithmetic, garbage and trailing data are errors, not panics -/
example : evalOk ["I32Const", "End"] false false = true ∧ evalOk ["I32Const", "I32Const", "I32Add", "End"] false false = false
    ∧ evalOk ["Nop", "End"] false false = false ∧ evalOk ["I32Const", "End"] false true = false := by decide +kernel

/-- non-vacuity: a well-formed module is accepted; hostile inputs (the shapes of the repaired F2a–e) are errors or are ignored -/
example : parseM [.version 1, .types [true], .imports 1, .funcs [0], .codeStart 1, .body false false, .names [0, 1, 7]] = .ok := by decide +kernel
example : parseM [.version 1, .types [false], .funcs [0], .codeStart 1, .body false false] = .err "function type" := by decide +kernel
example : parseM [.version 1, .funcs [5], .codeStart 1, .body false false] = .err "function type" := by decide +kernel
example : parseM [.version 1, .names [3], .funcs [0]] = .err "IncorrectCodeCounts" := by decide +kernel

end Orca.Parse

namespace Orca.Comp

/-- **the recursion of `Component::parse` is bounded by a constant, not by the input**: parsing a component whose nested components go
    `n` levels deep runs `parse_comp` at depths `0 … n` when `n ≤ MAX_NESTING_DEPTH` and returns an error otherwise — never deeper
    than `MAX_NESTING_DEPTH` (the constant is read from the source on every run; F36: with the input's depth as the bound,
    about 140 levels overflow a 2 MB stack). -/
theorem c03_component_nesting_bounded (items : List Item) :
    (nestL items ≤ Orca.Gen.maxNestingDepth → parseDepthL Orca.Gen.maxNestingDepth 0 items = some (nestL items))
    ∧ (Orca.Gen.maxNestingDepth < nestL items → parseDepthL Orca.Gen.maxNestingDepth 0 items = none)
    ∧ (∀ d, parseDepthL Orca.Gen.maxNestingDepth 0 items = some d → d ≤ Orca.Gen.maxNestingDepth) := by
  rw [parseDepthL_eq Orca.Gen.maxNestingDepth items 0 (Nat.zero_le _), Nat.zero_add]
  refine ⟨fun hle => if_pos hle, fun hlt => if_neg (by omega), fun d hd => ?_⟩
  split at hd
  · cases hd; assumption
  · cases hd

example : parseDepthL 2 0 [.component 1 [.component 2 [.section_ 3]], .module 4 []] = some 2
    ∧ parseDepthL 2 0 [.component 1 [.component 2 [.component 3 []]]] = none := by decide +kernel

end Orca.Comp
