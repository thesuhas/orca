import Orca.Lemmas.Comp
import Orca.Lemmas.Runs
import Orca.Gen.DefTypes
/-!
# C27 — component round trip preserves structure at any nesting depth

Model M10 (`Orca.Comp`). Two mechanisms of wirm's own decide the structure of the encoded component; both are modelled
and proved for **every** component tree, of any width and depth:

* which of the payloads streamed by `parse_all` belong to the component being parsed (`loop`, the stack discipline after
  the repair of F21), and
* the record / replay of the section order (`add_to_sections`, the per-kind vectors and cursors of `encode_comp`).

The conversion of the *contents* of component-level sections (types, canonical functions, aliases, instances, …) goes
through wasm-encoder's re-encoder and hand-written conversions in component.rs / wrappers.rs; it is modelled as the
identity and compared per case on the printed text (that is how F22 — `stream` encoded as `future` — was found).
-/
namespace Orca.Comp

/-- Parsing a component whose items are `items` (each nested module / component streaming its own payloads
    and `End`, nested to any depth) records exactly its own sections and its direct children, in order — nothing of what is
    nested deeper, nothing twice. -/
theorem c27_owns_exactly (items : List Item) : loop 0 (streamL items ++ [.end_]) = items.map ownEv := by
  rw [loop_owns items [.end_]]
  simp [loop]

/-- The sections recorded while parsing, replayed with one cursor per kind, give back the items in their
    original order, whatever the cut into sections was and however `add_to_sections` merged adjacent sections of one kind -/
theorem c27_replay_restores_order {κ α : Type} [DecidableEq κ] (items : List (κ × α)) (secs : List (Nat × κ))
    (h : expandRuns secs = items.map (·.1)) :
    replay (store items) secs (fun _ => 0) = items :=
  replay_spec secs items h

/-- `add_to_sections` describes the same sequence of kinds whether it merges or appends -/
theorem c27_add_to_sections {κ : Type} [DecidableEq κ] (secs : List (Nat × κ)) (k : κ) (n : Nat) :
    expandRuns (addToSections secs k n) = expandRuns secs ++ List.replicate n k :=
  expandRuns_addToSections secs k n

/-- what parsing records for a sequence of sections, each of one kind with its items: one `add_to_sections` per section -/
def record {κ α : Type} [DecidableEq κ] (sections : List (κ × List α)) : List (Nat × κ) :=
  sections.foldl (fun secs (p : κ × List α) => addToSections secs p.1 p.2.length) []

/-- the items of the component in order, each with its kind -/
def itemsOf {κ α : Type} (sections : List (κ × List α)) : List (κ × α) :=
  sections.flatMap (fun (p : κ × List α) => p.2.map (fun a => (p.1, a)))

theorem expandRuns_record {κ α : Type} [DecidableEq κ] (sections : List (κ × List α)) :
    ∀ (acc : List (Nat × κ)),
      expandRuns (sections.foldl (fun secs (p : κ × List α) => addToSections secs p.1 p.2.length) acc)
        = expandRuns acc ++ (itemsOf sections).map (·.1) := by
  induction sections with
  | nil => intro acc; simp [itemsOf]
  | cons s rest ih =>
    intro acc
    simp only [List.foldl_cons]
    rw [ih, expandRuns_addToSections]
    simp [itemsOf, List.map_flatMap, Function.comp_def, List.append_assoc, List.map_const']

/-- **record, then replay, is the identity** — for every sequence of sections (any kinds, any sizes, empty sections included,
    any number of adjacent sections of one kind): parsing them into the per-kind vectors with the run-length list and encoding
    from those gives back the items in their original order. -/
theorem c27_record_replay_roundtrip {κ α : Type} [DecidableEq κ] (sections : List (κ × List α)) :
    replay (store (itemsOf sections)) (record sections) (fun _ => 0) = itemsOf sections := by
  apply c27_replay_restores_order
  have := expandRuns_record sections []
  simpa [record, expandRuns] using this

example : record [(0, [10]), (1, [11]), (0, [12]), (0, [13, 16]), (2, ([] : List Nat)), (0, [15])]
    = [(1, 0), (1, 1), (3, 0), (0, 2), (1, 0)] := by decide +kernel

/-- the encoder method each variant of `wasmparser::ComponentDefinedType` has to be re-encoded with (reviewed by hand against
    wasm-encoder's `ComponentDefinedTypeEncoder`) -/
def specDefMethod : String → String
  | "Primitive" => "primitive" | "Record" => "record" | "Variant" => "variant" | "List" => "list" | "Tuple" => "tuple"
  | "Flags" => "flags" | "Enum" => "enum_type" | "Option" => "option" | "Result" => "result" | "Own" => "own" | "Borrow" => "borrow"
  | "Future" => "future" | "Stream" => "stream" | "FixedSizeList" => "fixed_size_list" | _ => "?"

/-- **every arm re-encodes its own variant**: in both places where wirm re-encodes a component defined type by hand (`encode_comp`
    for the component's own type section, `convert_component_type` for types nested in component / instance type declarations), each
    arm over `ComponentDefinedType` calls the encoder method of that variant and no other (the arms are regenerated from the source
    on every run; F22 — a `stream` written as a `future` — was an arm that did not), and both places cover all fourteen variants. -/
theorem c27_defined_type_arms :
    Orca.Gen.definedTypeArms.all (fun a => !a.2.2.isEmpty && a.2.2.all (· == specDefMethod a.2.1)) = true
    ∧ ["component.rs", "wrappers.rs"].all (fun s =>
        ["Primitive", "Record", "Variant", "List", "Tuple", "Flags", "Enum", "Option", "Result", "Own", "Borrow", "Future", "Stream",
         "FixedSizeList"].all (fun v => Orca.Gen.definedTypeArms.any (fun a => a.1 == s && a.2.1 == v))) = true := by
  decide +kernel

/-! non-vacuity (decided): depth 3 — the shape of the repaired defect F21: the root owns the outer component only; the
    sections that follow the innermost module are not the root's -/
def exDeep : List Item :=
  [ .section_ 1,
    .component 2 [ .section_ 3, .component 4 [ .module 5 [6, 7], .section_ 8, .component 9 [.module 10 []] ], .section_ 11 ],
    .module 12 [13], .section_ 14 ]
example : loop 0 (streamL exDeep ++ [.end_]) = [.payload 1, .componentStart 2, .moduleStart 12, .payload 14] := by decide +kernel
example : replay (store [(0, 10), (1, 11), (0, 12), (0, 13), (2, 14), (0, 15)]) [(1, 0), (1, 1), (2, 0), (1, 2), (1, 0)] (fun _ => 0)
    = [(0, 10), (1, 11), (0, 12), (0, 13), (2, 14), (0, 15)] := by decide +kernel

end Orca.Comp
