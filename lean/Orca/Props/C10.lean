import Orca.Lemmas.Ops
import Orca.Gen.ApiOutline
import Orca.Model.ApiOutlineSpec
import Orca.Lemmas.Redirect
/-!
# C10 — replacing an import with a built function redirects all its uses
The id of the function stays what it was; what it designates changes. Together with C06 (`c06_encode_refs`: every
stored id is rewritten to the index of the entity at that position) every former use executes the new body.
-/
namespace Orca.Edit
open Orca.Reindex

/-- after `replace_import_in_module(ImportsID p)`: the id of the function that carried import `p` designates the new
    local function; that import entry — and no other — is marked deleted; every other function keeps its id and
    identity; the new body is registered under the new entity -/
theorem c10_replace_import_redirects (s : St) (impId uid : Nat) (sites : List Ref) (e : ImpEntry) (fid : Nat) (x : Item)
    (he : s.imports[impId]? = some e) (hk : e.sp = some Sp.F)
    (hfind : s.f.items.findIdx? (fun (it : Item) => !it.del && it.imp && it.impId == impId) = some fid)
    (hx : s.f.items[fid]? = some x) (himp : x.imp = true) (hxi : x.impId = impId) :
    let r := replaceImport s impId uid sites
    r.2 = Ret.unit
    ∧ r.1.f.items[fid]? = some { id := fid, imp := false, del := false, uid := uid, impId := 0 }
    ∧ (∀ j, j ≠ fid → r.1.f.items[j]? = s.f.items[j]?)
    ∧ r.1.imports = s.imports.set impId { e with del := true }
    ∧ r.1.code = s.code ++ [(uid, sites)] := by
  -- (`himp` and `hxi` say what `hfind` already implies of the entry found)
  rw [replaceImport_found he hk hfind]
  exact ⟨rfl, List.getElem?_set_self (getElem?_lt hx), fun j hj => List.getElem?_set_ne (Ne.symm hj), rfl, rfl⟩

/-- regression for F11: a global import in front of the function import (ImportsID 1 is FunctionID 0) -/
example :
    let s0 : St := { f := { items := [⟨0, true, false, 5, 1⟩, ⟨1, false, false, 6, 0⟩], numImp := 1 },
                     imports := [⟨some Sp.G, false, 4⟩, ⟨some Sp.F, false, 5⟩] }
    ((replaceImport s0 1 9 []).1.f.items.map (fun i => (i.uid, i.imp))) = [(9, false), (6, false)] := by decide +kernel

/-- **End to end, for every earlier and later history.** Take any state reached from a parsed module (`StInv`), replace the
    function import `impId` by a built function `uid`, continue with any history that neither deletes nor converts that function
    (and does not encode), then encode. Either the encoder fails loudly because some stored reference designates a deleted
    entity, or: every emitted reference — call, `ref.func`, export, element entry, start — whose stored id was the id of the
    replaced import designates the new function `uid` in the encoded module, and every reference at all designates the live
    entity its id designated. -/
theorem c10_uses_execute_new_body (s0 : St) (h0 : StInv s0) (impId uid : Nat) (sites : List Ref) (e : ImpEntry) (fid : Nat) (x : Item)
    (he : s0.imports[impId]? = some e) (hk : e.sp = some Sp.F)
    (hfind : s0.f.items.findIdx? (fun (it : Item) => !it.del && it.imp && it.impId == impId) = some fid)
    (hx : s0.f.items[fid]? = some x) (himp : x.imp = true) (hxi : x.impId = impId)
    (ops : List Op) (hs : ∀ op ∈ ops, op ≠ .encode ∧ op ≠ .deleteFunc fid ∧ ∀ u, op ≠ .localToImport fid u) :
    let s := (run (replaceImport s0 impId uid sites).1 ops).1
    (∃ s' F G M res st, encode s = (s', Ret.encoded F G M res st)
        ∧ (∀ r' ∈ res ++ st.toList, ∃ r ∈ allRefs s, r'.site = r.site ∧ r'.sp = r.sp
            ∧ (∃ u, PointsTo s r u ∧ designated F G M r' = some u)
            ∧ (r.sp = .F → r.idx = fid → designated F G M r' = some uid)))
    ∨ (∃ s' why, encode s = (s', Ret.panic why) ∧ ∃ r ∈ allRefs s, Dangling s r) := by
  have hspec := c10_replace_import_redirects s0 impId uid sites e fid x he hk hfind hx himp hxi
  have h1 : StInv (replaceImport s0 impId uid sites).1 :=
    stInv_step s0 (.replaceImport impId uid sites) (by intro h; cases h) h0
  refine encode_designates _ h1 .F fid { id := fid, imp := false, del := false, uid := uid, impId := 0 } hspec.2.1 ops ?_
  intro op ho
  obtain ⟨a, b, c⟩ := hs op ho
  exact sparesF_of_ne a b (.inr c) (.inl rfl)

/-- **Every other function keeps its identity through the replacement and whatever follows**: a function entry `y` at another
    position `j` (a local function, or one carrying another import) that the later history does not address is still what every
    reference with id `j` designates in the encoded module. -/
theorem c10_other_functions_keep_identity (s0 : St) (h0 : StInv s0) (impId uid : Nat) (sites : List Ref) (j : Nat) (y : Item)
    (hy : s0.f.items[j]? = some y) (hother : y.imp = false ∨ y.impId ≠ impId)
    (ops : List Op) (hs : SparedBy j y ops) :
    let s := (run s0 (.replaceImport impId uid sites :: ops)).1
    (∃ s' F G M res st, encode s = (s', Ret.encoded F G M res st)
        ∧ (∀ r' ∈ res ++ st.toList, ∃ r ∈ allRefs s, r'.site = r.site ∧ r'.sp = r.sp
            ∧ (∃ u, PointsTo s r u ∧ designated F G M r' = some u)
            ∧ (r.sp = .F → r.idx = j → designated F G M r' = some y.uid)))
    ∨ (∃ s' why, encode s = (s', Ret.panic why) ∧ ∃ r ∈ allRefs s, Dangling s r) := by
  exact encode_designates s0 h0 .F j y hy _ (List.forall_mem_cons.mpr ⟨hother, hs⟩)

/-- non-vacuity of the end-to-end statement: import 1 (function id 0) is replaced, a function is added and code is injected
    into another function afterwards; the export and the call site that named id 0 both designate the new body 9 -/
example :
    let s0 : St := { f := { items := [⟨0, true, false, 5, 1⟩, ⟨1, false, false, 6, 0⟩], numImp := 1 },
                     imports := [⟨some Sp.G, false, 4⟩, ⟨some Sp.F, false, 5⟩],
                     code := [(6, [⟨200, Sp.F, 0⟩])], exports := [(⟨100, Sp.F, 0⟩, false)] }
    let s := (run (replaceImport s0 1 9 []).1 [.addImportFunc 7, .inject 1 [⟨201, Sp.F, 2⟩]]).1
    (match (encode s).2 with
     | Ret.encoded F _ _ res _ => res.map (fun r => (r.site, F[r.idx]?))
     | _ => []) = [(100, some 9), (200, some 9), (201, some 7)] := by decide +kernel

end Orca.Edit

/-- **The tie to the source (regenerated on every run).** The control-and-call skeletons of the functions this property rests on:
    `replace_import_in_module_with_tag` and `convert_import_fn_to_local` — which import entry is marked, which type the new function takes, what it is named — are what M2's replacement was transcribed from. A step moved, an early exit, guard, call or assignment added or removed breaks this obligation; renaming, comments and
    formatting do not. -/
theorem c10_replacement_code_reviewed :
    Orca.Gen.ApiOutline.convert_import_fn_to_local = Orca.ApiOutlineSpec.convert_import_fn_to_local
    ∧ Orca.Gen.ApiOutline.replace_import_in_module_with_tag = Orca.ApiOutlineSpec.replace_import_in_module_with_tag :=
  ⟨rfl, rfl⟩
