import Orca.Lemmas.SemSim
import Orca.Lemmas.Bridge
import Orca.Lemmas.SemErase
import Orca.Lemmas.SemBranch
/-!
# C16 — instrumentation with neutral probes preserves program behaviour

A probe is an event report (`Instr.probe id`: it appends `id` to the trace and touches nothing else — in the emitted
code `i32.const id; call $report`). The annotated program run with the monitor **off** is the original program; run with
the monitor **on** it is the original plus the events the properties define; `lowerF` is the instrumented code.

Scope of the theorems: terminating runs (any fuel), all programs of the fragment whose branches carry no
semantic-after annotation; with such annotations, on the scope of C20's branch theorem
(`c16_behaviour_preserved_with_branch_probes`). That the instrumented module *validates* is not a theorem (there is no
typing model): wasmparser's validator decides it on every generated case of the `sem` family.
-/
namespace Orca.Sem

/-- For a non-structural instruction the monitor fires the `before` probes, executes the instruction,
    and fires the `after` probes only if it completed normally (not on a trap). -/
theorem c16_before_after_moments (fns : List Callee) (fx fx' : List Nat) (f : Nat) (b a : List Nat) (k : OpK) (s : St) :
    runOne fns true fx (f + 1) (.op b a k) s
      = (runOne fns false fx' (f + 1) (.op [] [] k) (s.fire b)).onNormal (·.fire a) :=
  -- the bare instruction does not look at the function-exit probes (`runOne_bare`): any `fx'` stands for the `[]` of `runOne_op`
  runOne_op b a k

/-- The function's final `end`: its `before` probes fire when the body falls through to it, in front of the function-exit
    probes; a branch to the function label, a `return` and a trap leave the function without executing that `end` -/
theorem c16_before_final_end (F : Func) (base : List Nat) (s : St) (pd : Option SA) :
    finish true F base (.normal s) = .returned (s.stack.take F.nres) ((s.fire F.endBefore).fire F.exit)
    ∧ finish true F base (.br 0 pd s) = .returned (s.stack.take F.nres) (((s.exitTo base F.nres).fire (saPs pd)).fire F.exit)
    ∧ finish true F base (.ret s) = .returned (s.stack.take F.nres) s
    ∧ finish true F base (.trap s) = .trapped s := by
  simp [finish]

/-- Branches: `before` fires when the branch is about to execute; `after` only when a conditional branch is not
    taken; never for `br`, `br_table`, `return`, `unreachable` (their `after` code is dead) -/
theorem c16_before_after_branches (fns : List Callee) (fx b a : List Nat) (n : Nat) (ts : List Nat) (d : Nat) (s : St) (f : Nat) :
    runOne fns true fx (f + 1) (.br b a none n) s = .br n none (s.fire b)
    ∧ runOne fns true fx (f + 1) (.ret b a) s = .ret ((s.fire b).fire fx)
    ∧ runOne fns true fx (f + 1) (.unreachable b a) s = .trap ((s.fire b).fire fx)
    ∧ (∀ v st, s.stack = v :: st →
        runOne fns true fx (f + 1) (.brIf b a none n) s
          = (if v ≠ 0 then .br n none { (s.fire b) with stack := st } else .normal (({ (s.fire b) with stack := st } : St).fire a))
        ∧ runOne fns true fx (f + 1) (.brTable b a none ts d) s = .br ((ts[v]?).getD d) none { (s.fire b) with stack := st }) := by
  refine ⟨rfl, rfl, rfl, fun v st hs => ⟨?_, ?_⟩⟩
  · rw [runOne_brIf, hs]; simp [saPs]
  · rw [runOne_brTable, hs]; rfl

/-- **C16, trace half.** The instrumented function executes to exactly the monitored outcome: results, trap, globals, memory, locals
    and the trace, every probe at its defining moment. -/
theorem c16_instrumented_equals_monitored (fns : List Callee) (F : Func) (hns : noSAL F.body = true) (s : St)
    (hs : s.stack = []) (f : Nat) (ok : (runFunc fns true f F s).ok = true) :
    ∃ g, runFunc fns false g (lowerF F) s = runFunc fns true f F s :=
  lowerF_sim F hns s hs f ok

/-- **C16, behaviour half.** The instrumented function returns the same results, traps in the same cases, and leaves the
    same globals and memory as the original (the same function with every annotation ignored). -/
theorem c16_behaviour_preserved (fns : List Callee) (F : Func) (hns : noSAL F.body = true) (s : St)
    (hs : s.stack = []) (f : Nat) (ok : (runFunc fns true f F s).ok = true) :
    ∃ g, (runFunc fns false g (lowerF F) s).abs = (runFunc fns false f F s).abs := by
  obtain ⟨g, e⟩ := lowerF_sim (fns := fns) F hns s hs f ok
  exact ⟨g, by rw [e, runFunc_erase]⟩

/-- **C16 with semantic-after probes on branches** (scope of `c20_function_partial`): the instrumented function — flag
    locals, flag code and checks included — returns the same results, traps in the same cases and leaves the same globals
    and memory as the original, from every state that differs from the original's in the (zeroed) flag locals only. -/
theorem c16_behaviour_preserved_with_branch_probes (fns : List Callee) (Fl : List Nat) (F : Func)
    (hsc : scopedL Fl F.body = true) (hnd : (flagsL F.body).Nodup) (hF : ∀ x ∈ flagsL F.body, x ∈ Fl)
    (hnoesc : ∀ d, pendingL d F.body = []) (s s' : St) (hs : s.stack = []) (hfe : FlagEq Fl s s')
    (hz : ∀ x ∈ flagsL F.body, flagIs s' x 0) (f : Nat) (ok : (runFunc fns true f F s).ok = true) :
    ∃ g, (runFunc fns false g (lowerF F) s').abs = (runFunc fns false f F s).abs := by
  obtain ⟨g, h⟩ := branch_lowerF_sim (fns := fns) Fl F hsc hnd hF hnoesc s s' hs hfe hz f ok
  exact ⟨g, by rw [h.abs, runFunc_erase]⟩

/-- monitoring is neutral for every program, annotated branches included -/
theorem c16_monitor_neutral (fns : List Callee) (F : Func) (s : St) (f : Nat) :
    (runFunc fns true f F s).abs = (runFunc fns false f F s).abs :=
  runFunc_erase F s f

/-! non-vacuity, decided in the kernel: a function with a loop, a memory store, a global write, a division that traps for
    one argument, before/after probes on the division, entry/exit probes; argument 3 returns, argument 0 traps. -/
def exF : Func :=
  { entry := [1001], exit := [1002], nres := 1,
    body :=
      [ .op [] [] (.const 16), .op [] [] (.const 99), .op [] [] (.store 0),
        .op [] [] (.const 100), .op [] [] (.localGet 0), .op [1003] [1004] .divU,
        .op [] [] (.globalSet 0), .op [] [] (.globalGet 0) ] }
def exSt (x : Nat) : St := { stack := [], locals := [x], globals := [0], mem := [], trace := [] }

def view : FOut → Option (List Nat × List Nat × List Nat)
  | .returned r s => some (r, s.globals, s.trace)
  | .trapped s => some ([4294967295], s.globals, s.trace)
  | .stuck _ => none

example : view (runFunc [] false 50 (lowerF exF) (exSt 3)) = some ([33], [33], [1001, 1003, 1004, 1002]) := by decide +kernel
example : view (runFunc [] true 50 exF (exSt 3)) = some ([33], [33], [1001, 1003, 1004, 1002]) := by decide +kernel
example : view (runFunc [] false 50 exF (exSt 3)) = some ([33], [33], []) := by decide +kernel
example : view (runFunc [] false 50 (lowerF exF) (exSt 0)) = some ([4294967295], [0], [1001, 1003]) := by decide +kernel
example : noSAL exF.body = true ∧ (runFunc [] true 50 exF (exSt 0)).ok = true := by decide +kernel

end Orca.Sem

/-- The code's lowering (M3 `Lower.lower`: `resolve_special_instrumentation` and the emission loop) of the flattened function `flatF F nl`
    emits the tree lowering's tokens, `flattenF (lowerF F)` = `toksL (lowerF F).body ++ ["end"]`, and adds one local per flagged branch. Scope:
    `okL`, branch depths inside the function, flags numbered from `nl`, no `entry` / `exit` code beside `before` code on instruction 0 (Lemmas/Bridge.lean). -/
theorem c16_code_lowering_is_tree_lowering (F : Orca.Sem.Func) (nl : Nat) (hok : Orca.Bridge.okL F.body = true)
    (hd : Orca.Bridge.depthOkL 1 F.body = true)
    (hnum : Orca.Sem.flagsL F.body = List.range' nl (Orca.Sem.flagsL F.body).length)
    (hfirst : (F.entry = [] ∧ F.exit = []) ∨ ((Orca.Bridge.flatF F nl).body.head?.map (·.before)) = some []) :
    Orca.Lower.lower (Orca.Bridge.flatF F nl)
      = (Orca.SemTree.flattenF (Orca.Sem.lowerF F), (Orca.Sem.flagsL F.body).length) :=
  Orca.Bridge.code_lowering_is_flattened_tree_lowering F nl hok hd hnum hfirst
