import Orca.Gen.ApiOutline
import Orca.Model.ApiOutlineSpec
import Orca.Lemmas.OneProbe
import Orca.Gen.ResolverOutline
import Orca.Model.ResolverOutlineSpec
import Orca.Lemmas.StackSpec
import Orca.Lemmas.ApiPlan
/-!
# C22 — special-mode injections are never silently lost

Model: `Orca.Lower` (M3). Every public injection path ends in one of the `ApiOp`s (`inject` for iterators and
`FunctionModifier::inject`, `injectAtRaw` for `FunctionModifier::inject_at`, `addInstrAt` for `add_instr_at` called directly,
`emptyBlockAlt`). The theorems say that each of them either marks the function for `resolve_special_instrumentation` or
rejects the call (the first three are one path: `inject_eq_addInstrAt`, `injectAtRaw_eq` in Lemmas/Lower.lean). That a marked
injection then reaches the encoded module: for a body whose only instrumentation is that injection, at the place the mode names,
under nesting-depth hypotheses only (`c22_block_entry_reaches_output`, `c22_block_exit_reaches_output`,
`c22_semantic_after_reaches_output`, `c21_block_alt_region`); for every plan on a body the stack machine accepts
(`c22_no_block_level_probe_is_lost`, `c22_no_function_level_probe_is_lost`, `c22_nothing_is_lost_except_F15`), with one known
finding (F15: semantic-after on a branch to the function label). The correspondence oracle checks per case that every probe id
appears in the output unless the plan itself removes the construct.
-/
namespace Orca.Lower

/-- an accepted special-mode `add_instr_at` on a function modifier marks the function for resolution -/
theorem c22_add_instr_at_marks (f f' : Func) (idx : Nat) (t : Tok) (x : Instr) (hx : f.body[idx]? = some x)
    (hm : x.mode = some .semanticAfter ∨ x.mode = some .blockEntry ∨ x.mode = some .blockExit ∨ x.mode = some .blockAlt)
    (h : apply f (.addInstrAt idx t) = some f') : f'.hasSpecial = true := by
  obtain ⟨y, y', sp, hy, ha, _, hs, _⟩ := addInstrAt_spec f f' idx t h
  rw [hx] at hy; cases hy
  rw [hs, addInstr_special ha hm]; simp

/-- an accepted special-mode injection at an instruction marks the function (`inject` with no function-level mode selected is
    `add_instr_at`) -/
theorem c22_inject_marks (f f' : Func) (idx : Nat) (t : Tok) (x : Instr) (hx : f.body[idx]? = some x) (hf : f.fmode = none)
    (hm : x.mode = some .semanticAfter ∨ x.mode = some .blockEntry ∨ x.mode = some .blockExit ∨ x.mode = some .blockAlt)
    (h : apply f (.inject idx t) = some f') : f'.hasSpecial = true :=
  c22_add_instr_at_marks f f' idx t x hx hm (inject_eq_addInstrAt f idx t hf ▸ h)

/-- an accepted special-mode `FunctionModifier::inject_at` — `set_instrument_mode_at` followed by `add_instr_at`, the path of F16 —
    marks the function -/
theorem c22_inject_at_marks (f f' : Func) (idx : Nat) (m : Mode) (t : Tok)
    (hm : m = .semanticAfter ∨ m = .blockEntry ∨ m = .blockExit ∨ m = .blockAlt)
    (h : apply f (.injectAtRaw idx m t) = some f') : f'.hasSpecial = true := by
  rw [injectAtRaw_eq] at h
  obtain ⟨f1, h1, h2⟩ := Option.bind_eq_some_iff.mp h
  obtain ⟨x, hx, rfl⟩ := setMode_spec f f1 idx m h1
  exact c22_add_instr_at_marks _ f' idx t { x with mode := some m } (by simp [getElem?_modifyAt, hx])
    (by rcases hm with rfl | rfl | rfl | rfl <;> simp) h2

/-- function entry / exit injections are recorded in the function-level list and mark the function -/
theorem c22_function_level_marks (f f' : Func) (idx : Nat) (t : Tok) (fm : FMode) (hf : f.fmode = some fm)
    (h : apply f (.inject idx t) = some f') :
    f'.hasSpecial = true ∧ (fm = .entry → f'.entry = f.entry ++ [t]) ∧ (fm = .exit → f'.exit = f.exit ++ [t]) := by
  cases fm <;> simp only [apply, hf, Option.some.injEq] at h <;> subst h <;> simp

theorem c22_empty_block_alt_marks (f f' : Func) (idx : Nat) (h : apply f (.emptyBlockAlt idx) = some f') :
    f'.hasSpecial = true := by
  simp only [apply] at h
  cases hx : f.body[idx]? with
  | none => simp [hx] at h
  | some x =>
    simp only [hx] at h
    split at h
    · simp only [Option.some.injEq] at h; subst h; rfl
    · cases h

/-- an injection that cannot be honoured (block modes on a non-block opcode, semantic-after on an opcode that is
    neither block-like nor a branch) is rejected at the call -/
theorem c22_reject_is_loud (f : Func) (idx : Nat) (t : Tok) (x : Instr) (hx : f.body[idx]? = some x)
    (hf : f.fmode = none) (hk : x.kind.isBlockStyle = false)
    (hm : x.mode = some .blockEntry ∨ x.mode = some .blockExit ∨ x.mode = some .blockAlt
          ∨ (x.mode = some .semanticAfter ∧ x.kind.isBranching = false)) :
    apply f (.inject idx t) = none := by
  simp only [apply, hf, hx]
  have : x.addInstr t = none := by
    unfold Instr.addInstr
    rcases hm with hm | hm | hm | ⟨hm, hb⟩ <;> simp [hm, hk, *]
  simp [this]

/-- selecting an instruction-level mode leaves the function-level mode (F12): a later injection goes to the instruction -/
theorem c22_instruction_mode_leaves_function_mode (f f' : Func) (idx : Nat) (m : Mode)
    (h : apply f (.setMode idx m) = some f') : f'.fmode = none := by
  obtain ⟨_, -, rfl⟩ := setMode_spec f f' idx m h
  rfl

/-- non-vacuity and regression for F16 / F12: a block-entry probe through `inject_at`, an entry probe, then a before
    probe elsewhere -/
example :
    let f0 : Func := { body := [⟨"block", .block, none, [], [], none, [], [], [], none⟩, ⟨"nop", .other, none, [], [], none, [], [], [], none⟩,
                               ⟨"end", .end_, none, [], [], none, [], [], [], none⟩, ⟨"end", .end_, none, [], [], none, [], [], [], none⟩] }
    ((applyAll f0 [.injectAtRaw 0 .blockEntry "p", .setFMode .entry, .inject 0 "e", .setMode 1 .before, .inject 1 "b"]).map
        (fun f => (lower f).1)) = some ["e", "block", "p", "b", "nop", "end", "end"] := by decide +kernel

/-- **a block-entry injection reaches the output**, right behind the opening instruction — every body, any nesting -/
theorem c22_block_entry_reaches_output (f : Func) (pre rest : List Instr) (sel : Instr) (pr : List Tok)
    (hbody : f.body = pre ++ sel :: rest) (hrne : rest ≠ [])
    (hsp : f.hasSpecial = true) (hentry : f.entry = []) (hexit : f.exit = [])
    (hpre : ∀ x ∈ pre, Clean x) (hrest : ∀ x ∈ rest, Clean x) (hsel : OnlyEntry sel pr)
    (hk : sel.kind = .block ∨ sel.kind = .loop ∨ sel.kind = .if_)
    (n n2 : Nat) (hd1 : depthAfter pre 1 = some n) (hd2 : depthAfter rest (n + 1) = some n2) :
    lower f = (toks pre ++ [sel.tok] ++ pr ++ toks rest, f.added) :=
  blockEntry_placed f pre rest sel pr hbody hrne hsp hentry hexit hpre hrest hsel hk n n2 hd1 hd2

/-- **a block-exit injection on a `block` / `loop` reaches the output**, in front of the construct's matching `end` -/
theorem c22_block_exit_reaches_output (f : Func) (pre region post : List Instr) (sel endI : Instr) (pr : List Tok)
    (hbody : f.body = pre ++ sel :: region ++ endI :: post) (hpne : post ≠ [])
    (hsp : f.hasSpecial = true) (hentry : f.entry = []) (hexit : f.exit = [])
    (hpre : ∀ x ∈ pre, Clean x) (hreg : ∀ x ∈ region, Clean x) (hend : Clean endI) (hpost : ∀ x ∈ post, Clean x)
    (hsel : OnlyExit sel pr) (hk : sel.kind = .block ∨ sel.kind = .loop) (hendk : endI.kind = .end_)
    (n n2 : Nat) (hd1 : depthAfter pre 1 = some n) (hd2 : depthAfter region 0 = some 0) (hd3 : depthAfter post n = some n2) :
    lower f = (toks pre ++ [sel.tok] ++ toks region ++ pr ++ [endI.tok] ++ toks post, f.added) :=
  blockExit_placed f pre region post sel endI pr hbody hpne hsp hentry hexit hpre hreg hend hpost hsel hk hendk n n2 hd1 hd2 hd3

/-- **a semantic-after injection on a `block` / `loop` / `if` reaches the output**, behind the construct's matching `end` -/
theorem c22_semantic_after_reaches_output (f : Func) (pre region post : List Instr) (sel endI : Instr) (pr : List Tok)
    (hbody : f.body = pre ++ sel :: region ++ endI :: post) (hpne : post ≠ [])
    (hsp : f.hasSpecial = true) (hentry : f.entry = []) (hexit : f.exit = [])
    (hpre : ∀ x ∈ pre, Clean x) (hreg : ∀ x ∈ region, Clean x) (hend : Clean endI) (hpost : ∀ x ∈ post, Clean x)
    (hsel : OnlySemAfter sel pr) (hk : sel.kind = .block ∨ sel.kind = .loop ∨ sel.kind = .if_) (hendk : endI.kind = .end_)
    (n n2 : Nat) (hd1 : depthAfter pre 1 = some n) (hd2 : depthAfter region 0 = some 0) (hd3 : depthAfter post n = some n2) :
    lower f = (toks pre ++ [sel.tok] ++ toks region ++ [endI.tok] ++ pr ++ toks post, f.added) :=
  semAfter_placed f pre region post sel endI pr hbody hpne hsp hentry hexit hpre hreg hend hpost hsel hk hendk n n2 hd1 hd2 hd3

/-- **block-exit and semantic-after injections on an `else` reach the output**: block exit in front of, semantic-after behind the `end`
    of the `if` -/
theorem c22_else_probes_reach_output (f : Func) (pre region post : List Instr) (sel endI : Instr) (pr : List Tok)
    (hbody : f.body = pre ++ sel :: region ++ endI :: post) (hpne : post ≠ [])
    (hsp : f.hasSpecial = true) (hentry : f.entry = []) (hexit : f.exit = [])
    (hpre : ∀ x ∈ pre, Clean x) (hreg : ∀ x ∈ region, Clean x) (hend : Clean endI) (hpost : ∀ x ∈ post, Clean x)
    (hk : sel.kind = .else_) (hendk : endI.kind = .end_)
    (n n2 : Nat) (hd1 : depthAfter pre 1 = some (n + 1)) (hd2 : depthAfter region 0 = some 0) (hd3 : depthAfter post n = some n2) :
    (OnlyExit sel pr → lower f = (toks pre ++ [sel.tok] ++ toks region ++ pr ++ [endI.tok] ++ toks post, f.added))
    ∧ (OnlySemAfter sel pr → lower f = (toks pre ++ [sel.tok] ++ toks region ++ [endI.tok] ++ pr ++ toks post, f.added)) := by
  have key := fun hba => construct_placed f pre region post sel endI hbody hpne hsp hentry hexit hpre hreg hend hpost hba
    (by simp [hk, Kind.isBlockStyle]) (by simp [hk]) hendk n n2 (by rw [if_pos hk]; exact hd1) hd2 hd3
  constructor <;> intro hsel <;>
    simpa [emitMid, hsel.before, hsel.after, hsel.alt, hsel.blockEntry, hsel.blockExit, hsel.semAfter] using key hsel.blockAlt

/-! non-vacuity (decided): a loop nested in a block, probe `P` in each of the three modes on the loop -/
private def mkI (t : Tok) (k : Kind) : Instr := { tok := t, kind := k }
set_option maxRecDepth 8000 in
example :
    let body (sel : Instr) : List Instr :=
      [mkI "a" .other, mkI "block" .block, sel, mkI "b" .other, mkI "if" .if_, mkI "c" .other, mkI "end" .end_, mkI "end" .end_,
       mkI "d" .other, mkI "end" .end_, mkI "end" .end_]
    let go (sel : Instr) := (lower { body := body sel, hasSpecial := true }).1
    go { mkI "loop" .loop with blockEntry := ["P"] } = ["a", "block", "loop", "P", "b", "if", "c", "end", "end", "d", "end", "end"]
    ∧ go { mkI "loop" .loop with blockExit := ["P"] } = ["a", "block", "loop", "b", "if", "c", "end", "P", "end", "d", "end", "end"]
    ∧ go { mkI "loop" .loop with semAfter := ["P"] } = ["a", "block", "loop", "b", "if", "c", "end", "end", "P", "d", "end", "end"] := by
  decide +kernel

/-- **The resolver is a stack machine.** For a marked function without function-level code and every plan that uses `before` / `after`
    anywhere and block-entry / block-exit / semantic-after on constructs — any number of probes, any nesting, several on one construct —
    the depth-keyed tables of `resolve_special_instrumentation` behave as a stack of frames, one per open construct, and the encoded body
    is the one the stack machine `specRun` defines: entry code behind the opener (behind its `after` code), exit code in front of the
    matching `end` (for an `if`: in front of its `else`, or of its `end` when there is none), semantic-after code behind the
    matching `end`, everything in injection order; no local is added. (`specRun … = some out` says the body is well nested.) -/
theorem c22_resolver_is_a_stack_machine (f : Func) (hsp : f.hasSpecial = true) (hentry : f.entry = []) (hexit : f.exit = [])
    (hp : ∀ x ∈ f.body, Plain x) (out : List Tok) (hs : specRun (f.body.length - 1) 0 [{}] f.body = some out) :
    lower f = (out, f.added) :=
  lower_eq_spec f hsp hentry hexit hp out hs

/-- **No block-level probe is lost**: every token of every `before` list and of every block-entry, block-exit and semantic-after list on
    a construct is in the encoded function — the positive half of C22 for every plan in this scope, not only single probes. -/
theorem c22_no_block_level_probe_is_lost (f : Func) (hsp : f.hasSpecial = true) (hentry : f.entry = []) (hexit : f.exit = [])
    (hp : ∀ x ∈ f.body, Plain x) (out : List Tok) (hs : specRun (f.body.length - 1) 0 [{}] f.body = some out) :
    ∀ x ∈ f.body, (∀ t ∈ x.before, t ∈ (lower f).1)
      ∧ (x.kind.isBlockStyle = true → ∀ t, t ∈ x.blockEntry ∨ t ∈ x.blockExit ∨ t ∈ x.semAfter → t ∈ (lower f).1) := by
  rw [lower_eq_spec f hsp hentry hexit hp out hs]
  exact (specRun_keeps (f.body.length - 1) f.body 0 [{}] out hs (by omega) (.inl (by simp))).2.2

/-! non-vacuity (decided): five probes of three modes on a block, an `if` and its `else`, nested; the stack machine accepts the body
    and says where each goes -/
set_option maxRecDepth 8000 in
example :
    let body : List Instr :=
      [{ mkI "block" .block with blockEntry := ["E1"], blockExit := ["X1"], semAfter := ["A1"] },
       { mkI "if" .if_ with blockExit := ["X2"], before := ["B"] },
       mkI "c" .other,
       { mkI "else" .else_ with blockEntry := ["E2"], blockExit := ["X3"] },
       mkI "d" .other, mkI "end" .end_, mkI "end" .end_, mkI "end" .end_]
    specRun 7 0 [{}] body
      = some ["block", "E1", "B", "if", "c", "X2", "else", "E2", "d", "X3", "end", "X1", "end", "A1", "end"]
    ∧ (lower { body := body, hasSpecial := true }).1
      = ["block", "E1", "B", "if", "c", "X2", "else", "E2", "d", "X3", "end", "X1", "end", "A1", "end"] := by
  decide +kernel

/-- **The whole of `resolve_special_instrumentation` is a stack machine.** For a marked function and every plan built from `before` /
    `after` code anywhere, block-entry / block-exit / semantic-after probes and block alternates on any constructs, semantic-after
    probes on any branches (the flag scheme: a fresh i32 local set in front of the branch and cleared behind it, the probe guarded by it
    behind the `end` of every construct the branch can leave to) and function entry / exit code — any number of each, in any
    combination —, on a body the machine accepts the encoded body is what the machine `specRunF` (Lemmas/StackFull.lean) computes, and the
    lowering adds exactly the flag locals the machine counts. Instruction-level alternates are inside too: the resolver leaves them alone
    (a removed region empties them, a block alternate on the same opener is appended to them) and the machine writes them in place of
    the instruction. -/
theorem c22_resolver_is_the_complete_machine (f : Func) (hsp : f.hasSpecial = true) (hp : ∀ x ∈ f.body, PlainF x) (out : List Tok)
    (nlf : Nat) (hs : specRunF (f.body.length - 1) (entryToks f) f.exit 0 [{}] none f.nlocals f.body = some (out, nlf)) :
    lower f = (out, f.added + (nlf - f.nlocals)) :=
  lower_eq_specF f hsp hp out nlf hs

/-- **From the API down**: any parsed function, **any** sequence of injection-API calls — the API itself keeps every plan inside the
    machine's scope (it panics on what would leave it), so what is encoded is what the machine says. -/
theorem c22_every_api_plan_lowers_as_the_machine (f0 f : Func) (ops : List ApiOp) (h0 : ∀ x ∈ f0.body, Pristine x)
    (ha : applyAll f0 ops = some f) (hsp : f.hasSpecial = true) (out : List Tok) (nlf : Nat)
    (hs : specRunF (f.body.length - 1) (entryToks f) f.exit 0 [{}] none f.nlocals f.body = some (out, nlf)) :
    lower f = (out, f.added + (nlf - f.nlocals)) :=
  lower_eq_specF f hsp (fun x hx => applyAll_inScope ops f0 f (fun y hy => (h0 y hy).inScope) ha x hx) out nlf hs

/-- **Well-nestedness is the only condition on the body**: the machine accepts every well-nested body (`okNest`: every `else` sits in a
    construct, every `end` closes something, the function body's frame is closed by the last instruction and by no earlier one), whatever
    the plan and the removal state; hence for every API history that marks a well-nested function the encoded body *is* the machine's
    output. -/
theorem c22_lowering_is_the_machine_on_every_well_nested_body (f0 f : Func) (ops : List ApiOp) (h0 : ∀ x ∈ f0.body, Pristine x)
    (ha : applyAll f0 ops = some f) (hsp : f.hasSpecial = true) (hn : okNest 1 f.body = true) :
    ∃ out nlf, specRunF (f.body.length - 1) (entryToks f) f.exit 0 [{}] none f.nlocals f.body = some (out, nlf)
      ∧ lower f = (out, f.added + (nlf - f.nlocals)) :=
  lower_is_machine f hsp (fun x hx => applyAll_inScope ops f0 f (fun y hy => (h0 y hy).inScope) ha x hx) hn

/-- **no function-level probe is lost, whatever else the plan contains** -/
theorem c22_no_function_level_probe_is_lost (f : Func) (hsp : f.hasSpecial = true) (hp : ∀ x ∈ f.body, PlainF x) (out : List Tok)
    (nlf : Nat) (hne : f.body ≠ [])
    (hs : specRunF (f.body.length - 1) (entryToks f) f.exit 0 [{}] none f.nlocals f.body = some (out, nlf)) :
    (∀ t ∈ f.entry, t ∈ (lower f).1) ∧ (∀ t ∈ f.exit, t ∈ (lower f).1) :=
  lower_keeps_fn f hsp hp out nlf hne hs

/-- **Nothing is lost, for every plan without block alternates**: each instruction's `before` code, each construct's block-entry,
    block-exit and semantic-after code and each branch's semantic-after code is in the encoded function (`KeptAll`, Lemmas/StackFull.lean)
    — with exactly one exception, which the statement names: an unconditional branch or `br_table` all of whose targets are the
    function's own label (finding F15, recorded in known-findings.txt). With `c22_no_function_level_probe_is_lost` this is the positive
    half of C22 for every such plan; inside a region removed by a block alternate probes are discarded on purpose (C21). -/
theorem c22_nothing_is_lost_except_F15 (f : Func) (hsp : f.hasSpecial = true) (hp : ∀ x ∈ f.body, PlainF x)
    (hna : ∀ x ∈ f.body, x.blockAlt = none) (out : List Tok) (nlf : Nat)
    (hs : specRunF (f.body.length - 1) (entryToks f) f.exit 0 [{}] none f.nlocals f.body = some (out, nlf)) :
    KeptAll 0 f.body (lower f).1 :=
  lower_keeps_all_F f hsp hp hna out nlf hs

/-- what `KeptAll` says about one instruction at nesting depth `d` (unfolded, so that the statement above can be read here) -/
theorem c22_kept_one_reads (d : Nat) (x : Instr) (out : List Tok) :
    keptOne d x out ↔
      ((∀ t ∈ x.before, t ∈ out)
       ∧ (x.kind.isBlockStyle = true → ∀ t, t ∈ x.blockEntry ∨ t ∈ x.blockExit ∨ t ∈ x.semAfter → t ∈ out)
       ∧ (flaggedBranch x = true → ((∃ n, x.kind = .brIf n) ∨ ∃ t ∈ branchTargets x.kind, t < d) → ∀ t ∈ x.semAfter, t ∈ out)) :=
  Iff.rfl

/-! non-vacuity (decided): entry and exit code, a block with entry and semantic-after probes, a loop replaced by a block alternate, a
    `br_if` with a semantic-after probe (flag local 3), a `return` -/
set_option maxRecDepth 20000 in
example :
    let body : List Instr :=
      [{ mkI "block" .block with blockEntry := ["E1"], semAfter := ["A1"] },
       { mkI "loop" .loop with blockAlt := some ["R"] }, { mkI "x" .other with before := ["Bx"] }, mkI "end" .end_,
       { mkI "br_if 0" (.brIf 0) with semAfter := ["S"] },
       mkI "return" .exitLike,
       mkI "end" .end_, mkI "end" .end_]
    let f : Func := { body := body, hasSpecial := true, entry := ["EN"], exit := ["EX"], nlocals := 3 }
    specRunF 7 (entryToks f) f.exit 0 [{}] none 3 body
      = some (["EN", "block:functype", "block", "E1", "R", "Bx", "i32.const:1", "local.set:3", "br_if 0", "i32.const:0", "local.set:3", "S",
               "EX", "return", "end", "local.get:3", "if", "S", "end", "A1", "end", "EX", "end"], 4)
    ∧ lower f = (["EN", "block:functype", "block", "E1", "R", "Bx", "i32.const:1", "local.set:3", "br_if 0", "i32.const:0", "local.set:3", "S",
               "EX", "return", "end", "local.get:3", "if", "S", "end", "A1", "end", "EX", "end"], 1) := by
  decide +kernel

/-! non-vacuity (decided): instruction-level alternates next to special modes — an opener that carries both an alternate `A` and a block
    alternate `R` (the code appends: `A R`), a `nop` replaced by `N1 N2` behind its `before` code, an instruction replaced by nothing
    inside a block with an exit probe; entry code in front -/
set_option maxRecDepth 20000 in
example :
    let body : List Instr :=
      [{ mkI "block" .block with alt := some ["A"], blockAlt := some ["R"] }, mkI "x" .other, mkI "end" .end_,
       { mkI "nop" .other with alt := some ["N1", "N2"], before := ["B"] },
       { mkI "block" .block with blockExit := ["X"] }, { mkI "y" .other with alt := some [] }, mkI "end" .end_, mkI "end" .end_]
    let f : Func := { body := body, hasSpecial := true, entry := ["EN"] }
    specRunF 7 (entryToks f) f.exit 0 [{}] none 0 body = some (["EN", "A", "R", "B", "N1", "N2", "block", "X", "end", "end"], 0)
    ∧ lower f = (["EN", "A", "R", "B", "N1", "N2", "block", "X", "end", "end"], 0) := by
  decide +kernel

end Orca.Lower

/-- **The tie to the source (regenerated on every run).** The skeleton of the driver `resolve_special_instrumentation` — the order of
    the steps of one iteration (function entry, function exit, the `match` on the operator with its removal paths and their
    `continue`s, then the three special lists under `has_instr()`, each followed by its `clear_instr_at`) — and of `resolve_bodies` are
    what `resolveSpecial` / `rstep` / `resolveBodies` were transcribed from. -/
theorem c22_resolver_code_reviewed :
    Orca.Gen.Outline.resolve_special_instrumentation = Orca.Lower.Outline.resolve_special_instrumentation
    ∧ Orca.Gen.Outline.resolve_bodies = Orca.Lower.Outline.resolve_bodies :=
  ⟨rfl, rfl⟩

/-- **The tie to the source (regenerated on every run).** Where an injection is accepted and marked (`FuncInstrFlag::add_instr` / `has_instr`, `InstrumentationFlag::add_instr`, the operator classes `is_block_style_op` / `is_branching_op`, `check_special_is_resolved`, `Instruction::empty_block_alt`, src/ir/types.rs), word for word. `c22_inject_marks`, `c22_function_level_marks`, `c22_empty_block_alt_marks` and `c22_reject_is_loud` are statements about M3's transcription of exactly these functions. -/
theorem c22_marking_code_reviewed :
    Orca.Gen.ApiOutline.func_flag_add_instr = Orca.ApiOutlineSpec.func_flag_add_instr
    ∧ Orca.Gen.ApiOutline.func_flag_has_instr = Orca.ApiOutlineSpec.func_flag_has_instr
    ∧ Orca.Gen.ApiOutline.flag_add_instr = Orca.ApiOutlineSpec.flag_add_instr
    ∧ Orca.Gen.ApiOutline.flag_is_block_style_op = Orca.ApiOutlineSpec.flag_is_block_style_op
    ∧ Orca.Gen.ApiOutline.flag_is_branching_op = Orca.ApiOutlineSpec.flag_is_branching_op
    ∧ Orca.Gen.ApiOutline.flag_check_special_is_resolved = Orca.ApiOutlineSpec.flag_check_special_is_resolved
    ∧ Orca.Gen.ApiOutline.instruction_empty_block_alt = Orca.ApiOutlineSpec.instruction_empty_block_alt :=
  ⟨rfl, rfl, rfl, rfl, rfl, rfl, rfl⟩

/-- **The tie to the source (regenerated on every run).** Selecting a function-level mode, emptying a block alternate and `LocalFunction::add_instr` (the place where a special mode marks its function for the resolver), word for word, for the function modifier and the module iterator. -/
theorem c22_location_api_code_reviewed :
    Orca.Gen.ApiOutline.modifier_set_func_instrument_mode = Orca.ApiOutlineSpec.modifier_set_func_instrument_mode
    ∧ Orca.Gen.ApiOutline.modifier_empty_block_alt_at = Orca.ApiOutlineSpec.modifier_empty_block_alt_at
    ∧ Orca.Gen.ApiOutline.moditer_set_func_instrument_mode = Orca.ApiOutlineSpec.moditer_set_func_instrument_mode
    ∧ Orca.Gen.ApiOutline.moditer_empty_block_alt_at = Orca.ApiOutlineSpec.moditer_empty_block_alt_at
    ∧ Orca.Gen.ApiOutline.localfn_add_instr = Orca.ApiOutlineSpec.localfn_add_instr :=
  ⟨rfl, rfl, rfl, rfl, rfl⟩
