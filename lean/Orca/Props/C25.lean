import Orca.Lemmas.Iter
import Orca.Gen.ApiOutline
import Orca.Model.ApiOutlineSpec
/-!
# C25 — the module iterator visits every instruction exactly once, in order

Model: `Orca.Iter` (M7) — `FuncSubIterator`, `ModuleSubIterator` and the `curr_op`/`next`/`reset`
protocol of `ModuleIterator`, as they are after the repair recorded in known-findings.txt
(`fixed: property=C25 …`). `md` is `get_func_metadata()`, `skip` the list of skipped function ids.
`AllNonEmpty md` says every function body has at least one instruction (its final `end`), which holds for
every function wirm parses from a valid module or builds with the function builder.
-/
namespace Orca.Iter

/-- The client loop `loop { visit curr_loc; if next().is_none() { break } }` reports exactly the
    instructions of the non-skipped functions, in function and instruction order, each with its
    end-of-function flag; on a module without (non-skipped) local functions it reports nothing. -/
theorem c25_visits (md : List (Nat × Nat)) (skip : List Nat) (hne : AllNonEmpty md) :
    (ModIt.new md skip).trace (totalInstrs md) = visits skip md :=
  ModIt.trace_new md skip hne (Nat.le_succ_of_le (visits_length_le skip md))

/-- `c25_visits` with any surplus of fuel: the loop has stopped -/
theorem c25_visits_any_fuel (md : List (Nat × Nat)) (skip : List Nat) (hne : AllNonEmpty md) (k : Nat) :
    (ModIt.new md skip).trace (totalInstrs md + k) = visits skip md :=
  ModIt.trace_new md skip hne (by have := visits_length_le skip md; omega)

/-- the specification in closed form: filter out the skipped functions, then every instruction index
    `0 … n-1`, flagged at `n-1` -/
theorem c25_spec_closed_form (md : List (Nat × Nat)) (skip : List Nat) :
    visits skip md =
      (md.filter (fun p => !skipped skip p.1)).flatMap
        (fun p => (List.range p.2).map (fun i => (p.1, i, decide (i + 1 ≥ p.2)))) := by
  induction md with
  | nil => rfl
  | cons p md ih =>
    cases h : skipped skip p.1 <;> simp [visits, h, ih, funcVisits, List.range_eq_range']

/-- "exactly once": with distinct function ids no location is reported twice -/
theorem c25_no_duplicates (md : List (Nat × Nat)) (skip : List Nat) (hd : (md.map (·.1)).Nodup) :
    (visits skip md).Nodup := by
  rw [c25_spec_closed_form, List.Nodup, List.pairwise_flatMap]
  constructor
  · -- inside one function the instruction indices differ
    intro p _
    exact List.Pairwise.map _ (fun a b hab heq => hab (Prod.mk.inj (Prod.mk.inj heq).2).1) List.nodup_range
  · -- visits of different functions carry different function ids
    refine ((List.pairwise_map.mp hd).filter _).imp fun {a b} hab x hx y hy hxy => ?_
    obtain ⟨i, _, rfl⟩ := List.mem_map.mp hx
    obtain ⟨j, _, rfl⟩ := List.mem_map.mp hy
    exact hab (Prod.mk.inj hxy).1

/-- `k` calls of `next` -/
def steps : Nat → ModIt → ModIt
  | 0, it => it
  | k + 1, it => steps k it.next.1

theorem steps_preserve (k : Nat) : ∀ it : ModIt, (steps k it).md = it.md ∧ (steps k it).skip = it.skip := by
  induction k with
  | zero => intro it; exact ⟨rfl, rfl⟩
  | succ k ih =>
    intro it
    obtain ⟨a, b⟩ := ih it.next.1
    obtain ⟨c, d⟩ := ModIt.next_md_skip it
    exact ⟨a.trans c, b.trans d⟩

/-- wherever the iteration stands (also after it has finished), `reset` puts the iterator back into its
    initial state, so the whole visit sequence is reported again from the first instruction -/
theorem c25_reset_restarts (md : List (Nat × Nat)) (skip : List Nat) (hne : AllNonEmpty md) (k : Nat) :
    (steps k (ModIt.new md skip)).reset = ModIt.new md skip
    ∧ ((steps k (ModIt.new md skip)).reset).trace (totalInstrs md) = visits skip md := by
  have h := steps_preserve k (ModIt.new md skip)
  have hr : (steps k (ModIt.new md skip)).reset = ModIt.new md skip := by
    rw [ModIt.reset_eq_new, h.1, h.2]; rfl
  exact ⟨hr, by rw [hr]; exact c25_visits md skip hne⟩

/-- the only index into the metadata (`get_curr_func`) is guarded: in every state `curr_op` answers `None` exactly
    when there is no current function (no local functions, or all skipped), never the index panic -/
theorem c25_total (it : ModIt) : (it.visit = none ↔ it.atEnd = true) := by
  unfold ModIt.visit
  cases h : it.atEnd with
  | true => simp
  | false =>
    simp only [Bool.false_eq_true, if_false, iff_false]
    have hlt : it.idx < it.md.length := by simp [ModIt.atEnd] at h; exact h
    simp [ModIt.currLoc, List.getElem?_eq_getElem hlt]

/-- non-vacuity / regression for the repaired defects: function 0 skipped (F17), empty module (F18),
    everything skipped (F19) -/
example : (ModIt.new [(0, 3), (1, 2), (2, 1)] [0]).trace 6
    = [(1, 0, false), (1, 1, true), (2, 0, true)] := by decide +kernel
example : (ModIt.new [] []).trace 5 = [] := by decide +kernel
example : (ModIt.new [(4, 2), (5, 1)] [5, 4]).trace 5 = [] := by decide +kernel
example : (ModIt.new [(0, 2), (1, 2)] [1]).trace 4 = [(0, 0, false), (0, 1, true)] := by decide +kernel
example : AllNonEmpty [(0, 3), (1, 2), (2, 1)] := by intro p hp; simp at hp; rcases hp with rfl | rfl | rfl <;> simp

end Orca.Iter

/-- **The tie to the source (regenerated on every run).** The control-and-call skeletons of the functions this property rests on:
    `ModuleSubIterator::next` / `handle_skips` are what M7 was transcribed from. A step moved, an early exit, guard, call or assignment added or removed breaks this obligation; renaming, comments and
    formatting do not. -/
theorem c25_subiterator_code_reviewed :
    Orca.Gen.ApiOutline.module_subiterator_next = Orca.ApiOutlineSpec.module_subiterator_next
    ∧ Orca.Gen.ApiOutline.module_subiterator_handle_skips = Orca.ApiOutlineSpec.module_subiterator_handle_skips :=
  ⟨rfl, rfl⟩
