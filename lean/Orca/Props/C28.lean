import Orca.Model.Custom
import Orca.Gen.ApiOutline
import Orca.Model.ApiOutlineSpec
/-!
# C28 — custom sections are preserved and edited exactly

Model: `Orca.Custom` (M8). "Nothing else changes" has two halves: within the custom-section list it is
the frame statements below; for the rest of the module it is checked on the real output by the
correspondence oracle (text of all non-custom sections before and after).
-/
namespace Orca.Custom

/-- parse then encode keeps every custom section other than the name section, with its name, contents and
    relative order -/
theorem c28_roundtrip (input : List Sec) :
    encode (parse input) = input.filter (fun s => s.name != nameSec) := rfl

/-- an input without a name section comes back unchanged -/
theorem c28_roundtrip_id (input : List Sec) (h : ∀ s ∈ input, s.name ≠ nameSec) :
    encode (parse input) = input := by
  rw [c28_roundtrip, List.filter_eq_self]
  intro s hs; simpa using h s hs

/-- adding appends: the returned id designates the new section, every existing section keeps its id,
    name and contents -/
theorem c28_add (st : State) (s : Sec) :
    let r := step st (.add s)
    r.2 = .id st.length ∧ encode r.1 = encode st ++ [s]
    ∧ r.1[st.length]? = some s ∧ (∀ i, i < st.length → r.1[i]? = st[i]?) := by
  exact ⟨rfl, rfl, List.getElem?_concat_length, fun _ hi => List.getElem?_append_left hi⟩

/-- deleting an existing id removes exactly that section: the ones before keep their position, the ones
    after move up by one, in order -/
theorem c28_delete (st : State) (id : Nat) (h : id < st.length) :
    let r := step st (.delete id)
    encode r.1 = st.take id ++ st.drop (id + 1)
    ∧ r.1.length + 1 = st.length
    ∧ (∀ i, i < id → r.1[i]? = st[i]?) ∧ (∀ i, id ≤ i → r.1[i]? = st[i + 1]?) := by
  have hs : (step st (.delete id)).1 = st.eraseIdx id := by simp [step, h]
  refine ⟨by rw [hs]; exact List.eraseIdx_eq_take_drop_succ .., by rw [hs, List.length_eraseIdx]; simp [h]; omega, ?_, ?_⟩
  · intro i hi; rw [hs, List.getElem?_eraseIdx]; simp [hi]
  · intro i hi; rw [hs, List.getElem?_eraseIdx]; simp [Nat.not_lt.mpr hi]

/-- deleting an id that does not exist changes nothing -/
theorem c28_delete_absent (st : State) (id : Nat) (h : st.length ≤ id) :
    (step st (.delete id)).1 = st := by
  simp [step, Nat.not_lt.mpr h]

/-- modifying changes the contents of that section only; names, order and all other contents stay -/
theorem c28_modify (st : State) (id : Nat) (d : String) (s : Sec) (h : st[id]? = some s) :
    let r := step st (.modify id d)
    r.1[id]? = some { name := s.name, data := d }
    ∧ (∀ i, i ≠ id → r.1[i]? = st[i]?) ∧ r.1.length = st.length
    ∧ r.1.map (·.name) = st.map (·.name) := by
  obtain ⟨hlt, rfl⟩ := List.getElem?_eq_some_iff.mp h
  have hs : (step st (.modify id d)).1 = st.set id { st[id] with data := d } := by simp [step, h]
  refine ⟨by rw [hs]; simp [hlt], ?_, by rw [hs]; simp, ?_⟩
  · intro i hi; rw [hs, List.getElem?_set_ne (Ne.symm hi)]
  · -- the entry written has the name of the entry it replaces
    rw [hs, List.map_set]
    exact (List.getElem_map (fun x : Sec => x.name) (h := by simpa using hlt)) ▸ List.set_getElem_self _

theorem c28_modify_absent (st : State) (id : Nat) (d : String) (h : st[id]? = none) :
    step st (.modify id d) = (st, .none) := by simp [step, h]

theorem firstIdx_eq (name : String) (l : List Sec) (k : Nat) :
    firstIdx name l k = (l.findIdx? (fun s => s.name = name)).map (· + k) := by
  induction l generalizing k with
  | nil => rfl
  | cons s l ih =>
    by_cases h : s.name = name <;> simp [firstIdx, List.findIdx?_cons, h, ih, Function.comp_def]
    congr 1; funext x; omega

theorem firstIdx_spec (name : String) : ∀ (l : List Sec) (k i : Nat), firstIdx name l k = some i →
    k ≤ i ∧ (l[i - k]?).map (·.name) = some name ∧ ∀ j, j < i - k → (l[j]?).map (·.name) ≠ some name := by
  intro l k i h
  rw [firstIdx_eq, Option.map_eq_some_iff] at h
  obtain ⟨m, hm, rfl⟩ := h
  obtain ⟨hlt, hp, hnot⟩ := List.findIdx?_eq_some_iff_getElem.mp hm
  refine ⟨by omega, by simpa [hlt] using hp, fun j hj => ?_⟩
  have hjm : j < m := by omega
  simpa [List.getElem?_eq_getElem (Nat.lt_trans hjm hlt)] using hnot j hjm

/-- `get_id` never changes the sections, and an id it answers is that of the first section carrying the name -/
theorem c28_get_id (st : State) (name : String) :
    (step st (.getId name)).1 = st
    ∧ (∀ i, (step st (.getId name)).2 = .id i →
        (st[i]?).map (·.name) = some name ∧ ∀ j, j < i → (st[j]?).map (·.name) ≠ some name) := by
  simp only [step]
  cases hk : firstIdx name st 0 with
  | none => exact ⟨rfl, fun i hi => nomatch hi⟩
  | some k =>
    refine ⟨rfl, fun i hi => ?_⟩
    cases hi
    exact (firstIdx_spec name st 0 k hk).2

/-- `encode` emits the stored list as it is, so this holds by unfolding; what a history does to the list is in the theorems above -/
theorem c28_history (input : List Sec) (ops : List Op) :
    encode (run (parse input) ops).1 = (run (input.filter (fun s => s.name != nameSec)) ops).1 := rfl

/-- non-vacuity: a concrete history -/
example :
    (run (parse [⟨"aa", "01"⟩, ⟨nameSec, "ff"⟩, ⟨"bb", "02"⟩, ⟨"aa", "03"⟩])
      [.getId "aa", .delete 0, .getId "aa", .add ⟨"cc", ""⟩, .modify 1 "09", .delete 7, .modify 5 "00"])
    = ([⟨"bb", "02"⟩, ⟨"aa", "09"⟩, ⟨"cc", ""⟩], [.id 0, .done, .id 1, .id 2, .done, .done, .none]) := by
  decide +kernel

end Orca.Custom

/-- **The tie to the source (regenerated on every run).** The six functions of `CustomSections` (src/ir/types.rs) that M8 transcribes,
    taken word for word (white space normalised): their whole content is a bounds comparison and a vector operation each, so a skeleton of
    calls would not see `<` turned into `<=` or `remove` into `swap_remove`. Any change to their text breaks this obligation. -/
theorem c28_custom_sections_code_reviewed :
    Orca.Gen.ApiOutline.custom_new = Orca.ApiOutlineSpec.custom_new
    ∧ Orca.Gen.ApiOutline.custom_get_id = Orca.ApiOutlineSpec.custom_get_id
    ∧ Orca.Gen.ApiOutline.custom_get_by_id = Orca.ApiOutlineSpec.custom_get_by_id
    ∧ Orca.Gen.ApiOutline.custom_delete = Orca.ApiOutlineSpec.custom_delete
    ∧ Orca.Gen.ApiOutline.custom_get_section_data_mut = Orca.ApiOutlineSpec.custom_get_section_data_mut
    ∧ Orca.Gen.ApiOutline.custom_add = Orca.ApiOutlineSpec.custom_add :=
  ⟨rfl, rfl, rfl, rfl, rfl, rfl⟩
