import Orca.Lemmas.Iter
import Orca.Gen.ApiOutline
import Orca.Model.ApiOutlineSpec
import Orca.Props.C25
/-!
# C26 — component iteration matches module-level iteration

Model: `Orca.Iter` (M7) — `ComponentSubIterator` over per-module metadata and per-module skip lists
(absent map entries are empty lists). The second half of the property (injections through the component
iterator produce the same encoded modules as through module iterators) is a statement about two Rust
call paths into the same `LocalFunction` operations; it is decided by the correspondence family
`compiter` (same plan through both iterators, encoded modules compared byte for byte), not by a theorem.
-/
namespace Orca.Iter

def totalAll (mds : List (List (Nat × Nat))) : Nat := (mds.map totalInstrs).sum

theorem compVisitsFrom_length_le (skips : List (List Nat)) : ∀ (mds : List (List (Nat × Nat))) (m : Nat),
    (compVisitsFrom skips m mds).length ≤ totalAll mds := by
  intro mds
  induction mds with
  | nil => intro m; simp [compVisitsFrom, totalAll]
  | cons md mds ih =>
    intro m
    have h1 := visits_length_le (skips[m]?.getD []) md
    have h2 := ih (m + 1)
    simp only [compVisitsFrom, totalAll, List.map_cons, List.sum_cons, List.length_append, List.length_map] at *
    omega

/-- the component iterator's client loop reports, module after module in module order, exactly what the
    specification of C25 prescribes for each module with that module's skip list -/
theorem c26_visits (mds : List (List (Nat × Nat))) (skips : List (List Nat)) (hne : AllModsNonEmpty mds) :
    (CompIt.new mds skips).trace (totalAll mds) = compVisits mds skips :=
  CompIt.trace_new mds skips hne (Nat.le_succ_of_le (compVisitsFrom_length_le skips mds 0))

/-- the specification is what a module iterator over each module reports (C25), tagged with the module index -/
theorem c26_matches_module_iterators (mds : List (List (Nat × Nat))) (skips : List (List Nat))
    (hne : AllModsNonEmpty mds) : ∀ m : Nat,
    compVisitsFrom skips m mds =
      (mds.zipIdx m).flatMap (fun p =>
        ((ModIt.new p.1 (skips[p.2]?.getD [])).trace (totalInstrs p.1)).map (fun v => (p.2, v))) := by
  induction mds with
  | nil => intro m; rfl
  | cons md mds ih =>
    intro m
    have h1 : AllNonEmpty md := hne md (by simp)
    have h2 : AllModsNonEmpty mds := fun x hx => hne x (by simp [hx])
    simp only [compVisitsFrom, List.zipIdx_cons, List.flatMap_cons]
    rw [ih h2 (m + 1), c25_visits md _ h1]

/-- regression for F20: the last function of module 0 is skipped — the iteration moves on to module 1;
    an empty first module and an all-skipped middle module are passed over -/
example : (CompIt.new [[(0, 2), (1, 1)], [(0, 1)]] [[1], []]).trace 4
    = [(0, (0, 0, false)), (0, (0, 1, true)), (1, (0, 0, true))] := by decide +kernel
example : (CompIt.new [[], [(3, 1)], [(0, 2)]] [[], [3], []]).trace 3
    = [(2, (0, 0, false)), (2, (0, 1, true))] := by decide +kernel
example : (CompIt.new [] []).trace 3 = [] := by decide +kernel

end Orca.Iter

/-- **The tie to the source (regenerated on every run).** The control-and-call skeletons of the functions this property rests on:
    `ComponentSubIterator::next` / `next_module` are what M7's component half was transcribed from. A step moved, an early exit, guard, call or assignment added or removed breaks this obligation; renaming, comments and
    formatting do not. -/
theorem c26_subiterator_code_reviewed :
    Orca.Gen.ApiOutline.component_subiterator_next = Orca.ApiOutlineSpec.component_subiterator_next
    ∧ Orca.Gen.ApiOutline.component_subiterator_next_module = Orca.ApiOutlineSpec.component_subiterator_next_module :=
  ⟨rfl, rfl⟩

/-- **The tie to the source (regenerated on every run).** The component iterator's injection API, word for word: every function addresses `comp.modules[mod_idx]` and then does what the module iterator does. -/
theorem c26_injection_api_code_reviewed :
    Orca.Gen.ApiOutline.compiter_inject = Orca.ApiOutlineSpec.compiter_inject
    ∧ Orca.Gen.ApiOutline.compiter_inject_at = Orca.ApiOutlineSpec.compiter_inject_at
    ∧ Orca.Gen.ApiOutline.compiter_set_instrument_mode_at = Orca.ApiOutlineSpec.compiter_set_instrument_mode_at
    ∧ Orca.Gen.ApiOutline.compiter_set_func_instrument_mode = Orca.ApiOutlineSpec.compiter_set_func_instrument_mode
    ∧ Orca.Gen.ApiOutline.compiter_clear_instr_at = Orca.ApiOutlineSpec.compiter_clear_instr_at
    ∧ Orca.Gen.ApiOutline.compiter_add_instr_at = Orca.ApiOutlineSpec.compiter_add_instr_at
    ∧ Orca.Gen.ApiOutline.compiter_empty_alternate_at = Orca.ApiOutlineSpec.compiter_empty_alternate_at
    ∧ Orca.Gen.ApiOutline.compiter_empty_block_alt_at = Orca.ApiOutlineSpec.compiter_empty_block_alt_at :=
  ⟨rfl, rfl, rfl, rfl, rfl, rfl, rfl, rfl⟩
