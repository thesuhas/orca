import Orca.Gen.ApiOutline
import Orca.Model.ApiOutlineSpec
import Orca.Lemmas.Types
import Orca.Lemmas.Lower
import Orca.Gen.HashSites
/-!
# C04 — encoding is deterministic

Hash seeds differ between processes (and between two `HashMap`s of one process); they can reach the output only through
the *iteration order* of a hash map. `Orca.Gen.hashIterSites` is the list of such iterations in /repo/src, re-extracted
on every run (translator/scan_sites.py). The reviewed list below has four kinds of entries:

* `ModuleTypes::new` iterates the parsed types to build the dedup map — modelled with the order as an explicit parameter
  (`Orca.Types.new`), theorem `c04_types_order_independent`;
* `resolve_special_instrumentation` iterates, three times, a map `InstrumentationMode ↦ bodies` whose keys `Before` and
  `After` write to *different* lists of the instruction — theorem `c04_resolve_order_independent`;
* `ModuleTypes::iter` (public accessor, not used by `encode`), `print_metadata` (prints to stdout, not part of the output);
* `encode_internal: types.iter` is a `Vec<TypeID>` of a recursion group (name clash of the scanner, kept so that the list
  is reviewed as a whole).
-/
namespace Orca.C04

/-- the iteration sites this proof has accounted for; a new one makes this fail until it is modelled -/
theorem c04_sites_reviewed :
    Orca.Gen.hashIterSites =
      [ "ir/module/mod.rs:encode_internal:types.iter",
        "ir/module/mod.rs:resolve_special_instrumentation:to_resolve.iter",
        "ir/module/mod.rs:resolve_special_instrumentation:to_resolve.iter",
        "ir/module/mod.rs:resolve_special_instrumentation:to_resolve.iter",
        "ir/module/module_types.rs:iter:types.values",
        "ir/module/module_types.rs:new:types.iter",
        "iterator/component_iterator.rs:print_metadata:metadata.keys" ] :=
  rfl

/-- Whatever order the hash map of parsed types is iterated in, the dedup map answers every lookup alike;
    hence every later `add_*_type` returns the same id and the same bytes are encoded. -/
theorem c04_types_order_independent {τ : Type} [DecidableEq τ] (groups : List (List Nat × Bool)) (types : List τ)
    (o1 o2 : List Nat) (h : o1.Perm o2) (u : τ) :
    Orca.Types.lookup (Orca.Types.new groups types o1).map u = Orca.Types.lookup (Orca.Types.new groups types o2).map u :=
  Orca.Types.new_order_independent groups types o1 o2 h u

open Orca.Lower in
theorem modifyAt_cons_succ (a : Instr) (as : List Instr) (j : Nat) (g : Instr → Instr) :
    modifyAt (a :: as) (j + 1) g = a :: modifyAt as j g := by
  rw [modifyAt_eq_modify, modifyAt_eq_modify, List.modify_succ_cons]

open Orca.Lower in
/-- Flushing the `Before` bodies and the `After` bodies of one `end` in either order emits the same
    code: they go to different lists of that instruction (only the remembered `mode`, which the encoder never reads,
    differs). -/
theorem c04_resolve_order_independent (last : Nat) (b : List Instr) (i : Nat) (x y : List Tok) (k : Nat) :
    emitFrom last k (addAfter (addBefore b i x) i y) = emitFrom last k (addBefore (addAfter b i y) i x) := by
  induction b generalizing i k with
  | nil => simp [addAfter, addBefore, modifyAt]
  | cons a as ih =>
    cases i with
    | zero => simp [addAfter, addBefore, modifyAt, emitFrom]
    | succ j =>
      have h1 : addAfter (addBefore (a :: as) (j + 1) x) (j + 1) y = a :: addAfter (addBefore as j x) j y := by
        simp only [addAfter, addBefore, modifyAt_cons_succ]
      have h2 : addBefore (addAfter (a :: as) (j + 1) y) (j + 1) x = a :: addBefore (addAfter as j y) j x := by
        simp only [addAfter, addBefore, modifyAt_cons_succ]
      rw [h1, h2]
      simp only [emitFrom, ih]

end Orca.C04

/-- **The tie to the source (regenerated on every run).** `impl Hash` / `impl PartialEq for Types`, word for word: were equality and hash to look at different things, whether `add_type` finds an equal entry would depend on the hash seed of the run, and two runs would emit different type sections. -/
theorem c04_type_key_code_reviewed :
    Orca.Gen.ApiOutline.types_hash = Orca.ApiOutlineSpec.types_hash
    ∧ Orca.Gen.ApiOutline.types_eq = Orca.ApiOutlineSpec.types_eq :=
  ⟨rfl, rfl⟩
