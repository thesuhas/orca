import Orca.Lemmas.Roundtrip
import Orca.Lemmas.Sections
import Orca.Gen.Sections
/-!
# C01 — unmodified parse-then-encode yields a valid module

Validity is decided by wasmparser's validator; there is no typing model here. What is proved is the part of C01 that
is wirm's own: on the represented profile the conversions never panic and are inverse to each other (so the decoded
output equals the decoded input in everything wirm converts, C02), and validity carries over **provided** the
validator's verdict depends only on decoded content — an assumption about wasmparser that is stated as a hypothesis,
not proved. The `roundtrip` family validates every generated and fixture module before and after.
-/
namespace Orca.C01
open Orca.Gen

/-- parsing value types is total, and on the represented profile so is encoding what was parsed -/
theorem c01_conversions_total (v : VT) : (fromVal v).isSome = true ∧ (represented v = true → ((fromVal v).bind toEnc).isSome = true) := by
  refine ⟨fromVal_total v, fun h => ?_⟩
  rw [valtype_roundtrip v h]; rfl

/-- every constant-expression operator of the profile (everything but the extended-const arithmetic) is accepted by `eval` -/
theorem c01_constexpr_total :
    ["I32Const", "I64Const", "F32Const", "F64Const", "V128Const", "GlobalGet", "RefNull", "RefFunc", "StructNew", "StructNewDefault",
     "ArrayNew", "ArrayNewDefault", "ArrayNewFixed", "ArrayNewData", "ArrayNewElem", "RefI31"].all
      (fun op => evalTable.any (fun r => r.1 == op)) = true := by decide +kernel

/-- validity is preserved whenever the decoded content is (C02) and validity is a property of decoded content -/
theorem c01_valid_preserved {Bytes Content : Type} (decode : Bytes → Content) (Valid : Content → Prop) (input output : Bytes)
    (hsame : decode output = decode input) (hvalid : Valid (decode input)) : Valid (decode output) := by
  rw [hsame]; exact hvalid

/-- the two routes by which a `DataType` reaches the wire agree (an added global or a block type gets the type a parsed one
    would get) -/
theorem c01_wire_routes_agree : ∀ d : DT, (match d with | .RecGroup _ | .CoreTypeId _ => True | _ => toParser d = toEnc d) :=
  toParser_agrees

open Orca.Sections in
/-- **the encoder's section writes this model was written against**: every `module.section(&x)` call of `Module::encode_internal`, in
    source order, with the top-level statement that guards it (regenerated from the source on every run). A section that appears,
    disappears, moves, or gets another guard makes this fail until `Orca.Sections.plan` has been reviewed. -/
theorem c01_section_writes_reviewed :
    Orca.Gen.encoderSections =
      [("type_sect", "if !self.types.groups.is_empty()"), ("imports", "if !self.imports.is_empty()"),
       ("functions", "if !self.functions.is_empty()"), ("tables", "if !self.tables.is_empty()"),
       ("memories", "if !self.memories.is_empty()"), ("tags", "if !self.tags.is_empty()"),
       ("globals", "if !self.globals.is_empty()"), ("exports", "if !self.exports.is_empty()"),
       ("wasm_encoder::StartSection", "if let Some(function_index) = self.start"), ("elements", "if !self.elements.is_empty()"),
       ("data_count", "if self.data_count_section_exists"), ("code", "if !self.num_local_functions > 0"),
       ("data", "if !self.data.is_empty()"), ("names", "always"),
       ("wasm_encoder::CustomSection", "for section in self.custom_sections.iter()")] := rfl

open Orca.Sections in
/-- For every module, whatever it contains: the non-custom sections the encoder writes are in the order the binary
    format prescribes (type, import, function, table, memory, tag, global, export, start, element, data count, code, data), each
    at most once — a precondition of validity that is wirm's own doing. -/
theorem c01_sections_in_format_order (s : Shape) : (core s).Pairwise (fun x y => rank x < rank y) := core_sorted s

open Orca.Sections in
/-- A module that was parsed with a data-count section is encoded with one
    (`memory.init` / `data.drop` in a body are only valid with it), whether or not it has data segments or passive ones. -/
theorem c01_datacount_kept (s : Shape) (h : s.dataCount = true) : 12 ∈ plan s ∧ 12 ∈ core s ∧ 10 ∈ core s := by
  simp [core, mem_plan, h]

open Orca.Sections in
/-- a module with functions gets a function section and a code section; the code section is written in any case -/
theorem c01_function_and_code_sections (s : Shape) : 10 ∈ plan s ∧ (s.funcs > 0 → 3 ∈ plan s) := by
  simp [mem_plan]

/-- non-vacuity: a memory, a data-count section and data -/
example : Orca.Sections.plan ⟨0, 0, 0, 0, 1, 0, 0, 0, false, 0, true, 2, 1⟩ = [5, 12, 10, 11, 0, 0] := by decide +kernel

end Orca.C01
