import Orca.Lemmas.SemBranch
import Orca.Lemmas.SemSim
import Orca.Lemmas.Bridge
import Orca.Gen.ResolverOutline
import Orca.Model.ResolverOutlineSpec
import Orca.Lemmas.OneProbe
import Orca.Lemmas.StackSpec
import Orca.Lemmas.StackFull
/-!
# C20 — semantic-after probes fire exactly once after the instruction

Monitor semantics. On a block, an `if` or an `else`: the `after` slot fires whenever control reaches the instruction behind the
construct — by falling through or by a branch to its label (`leaveBlock`). On a branch: the probe travels with the branch outcome
and fires when the branch arrives at its target block or at the function label, once per execution; a conditional branch that is
not taken fires it at once. Branches to loop labels are outside the property (the monitor drops the probe there).

Status: the block / if / else half is proved in full (`c20_construct_after`). The branch half is proved on the scope where the code's
flag scheme (DESIGN.md, Appendix D) is right (`c20_branch_partial`, `c20_function_partial`): no annotation on `br_table`, no loop contains
(or is) the target of an annotated branch, no annotated branch leaves the function body, flag locals pairwise distinct, not named by
the program's own instructions and 0 on entry. Outside it the property is **false** of the code (F14, F15: decided below on concrete
programs; known findings of the crate, replayed by the `sem` family).
-/
namespace Orca.Sem

theorem c20_monitor_construct (ann : Ann) (base : List Nat) (a : Nat) (s : St) (pd : Option SA) :
    leaveBlock true ann base a (.normal s) = .normal ((s.fire ann.exit).fire ann.after)
    ∧ leaveBlock true ann base a (.br 0 pd s) = .normal (((s.exitTo base a).fire (saPs pd)).fire ann.after) := by
  simp [leaveBlock]

/-- the monitor's definition for branches: the probe is attached to the branch outcome, or fired at once when a
    conditional branch falls through -/
theorem c20_monitor_branch (fns : List Callee) (fx b a : List Nat) (sa : Option SA) (n : Nat) (s : St) (v : Nat) (st : List Nat)
    (f : Nat) (hs : s.stack = v :: st) :
    runOne fns true fx (f + 1) (.br b a sa n) s = .br n sa (s.fire b)
    ∧ runOne fns true fx (f + 1) (.brIf b a sa n) s =
        (if v ≠ 0 then .br n sa { (s.fire b) with stack := st }
         else .normal ((({ (s.fire b) with stack := st } : St).fire a).fire (saPs sa))) := by
  exact ⟨rfl, by rw [runOne_brIf, hs]; rfl⟩

/-- **C20, constructs.** For programs whose branches carry no semantic-after annotation: the lowered program, monitor
    off, reproduces the monitored outcome and trace, so a semantic-after probe on a block, `if` or `else` fires each time
    control reaches the instruction after the construct — fall-through or branch to its label — and never otherwise. -/
theorem c20_construct_after (fns : List Callee) (fx : List Nat) (f : Nat) (p : List Instr) (s : St) (o : Out)
    (hns : noSAL p = true) (h : run fns true fx f p s = o) (ok : o.ok = true) :
    ∃ g, run fns false [] g (lowerL fx p) s = o :=
  lower_sim_run hns h ok

def exSt (stack : List Nat) : St := { stack := stack, locals := [0], globals := [], mem := [], trace := [] }
def tr : Out → List Nat
  | .normal s | .br _ _ s | .ret s | .trap s => s.trace
  | .stuck _ => [0]
def trF : FOut → List Nat
  | .returned _ s | .trapped s => s.trace
  | .stuck _ => [0]

/-- non-vacuity for constructs: block left by `br 0` and by fall-through both report the construct's probe 1003 -/
def exBlk (leave : Bool) : List Instr :=
  [ .block [] { after := [1003] } 0 "block" ((if leave then [.br [] [] none 0] else []) ++ [.probe 7]), .probe 8 ]
example : tr (run [] false [] 50 (lowerL [] (exBlk true)) (exSt [])) = [1003, 8]
    ∧ tr (run [] false [] 50 (lowerL [] (exBlk false)) (exSt [])) = [7, 1003, 8] := by decide +kernel

/-- a single annotated branch into a block behaves as specified (flag local 0): taken → after arrival; not taken → at once -/
def exBr : List Instr :=
  [ .block [] {} 0 "block" [ .brIf [] [] (some ⟨0, [1004]⟩) 0, .probe 7 ], .probe 8 ]
example : tr (run [] true [] 50 exBr (exSt [1])) = [1004, 8] ∧ tr (run [] false [] 50 (lowerL [] exBr) (exSt [1])) = [1004, 8]
    ∧ tr (run [] true [] 50 exBr (exSt [0])) = [1004, 7, 8] ∧ tr (run [] false [] 50 (lowerL [] exBr) (exSt [0])) = [1004, 7, 8] := by
  decide +kernel

/-- **C20, branches (partial: the scope is `scopedL`).** Run the annotated program under the monitor from `s`; run its
    lowering with the monitor off from any `s'` that differs from `s` in flag locals only and has the program's flags at 0.
    Then the lowered run finishes with the same kind of outcome, the same stack, globals, memory and **trace** — every
    semantic-after probe of a `br` / `br_if` reported exactly when the monitor reports it: when the branch arrives at its
    target construct, or at once when a conditional branch falls through — and locals equal outside `F`. -/
theorem c20_branch_partial (fns : List Callee) (F fx : List Nat) (f : Nat) (p : List Instr) (s s' : St) (o : Out)
    (hsc : scopedL F p = true) (hnd : (flagsL p).Nodup) (hF : ∀ x ∈ flagsL p, x ∈ F)
    (h : run fns true fx f p s = o) (ok : o.ok = true) (hfe : FlagEq F s s') (hz : ∀ x ∈ flagsL p, flagIs s' x 0) :
    ∃ o', RunsL fns false [] (lowerL fx p) s' o' ∧ OutRel F o o' :=
  let ⟨o', h1, h2, _, _⟩ := branch_sim (fns := fns) hsc hnd hF h ok hfe hz
  ⟨o', h1, h2⟩

/-- **C20 at function level (partial: same scope, no annotated branch leaves the body, empty operand stack at the call).** The lowered function, monitor off, returns the same values (or traps
    alike) with the same globals, memory and trace as the monitor semantics defines for the annotated function. -/
theorem c20_function_partial (fns : List Callee) (F : List Nat) (Fn : Func) (hsc : scopedL F Fn.body = true)
    (hnd : (flagsL Fn.body).Nodup) (hF : ∀ x ∈ flagsL Fn.body, x ∈ F) (hnoesc : ∀ d, pendingL d Fn.body = [])
    (s s' : St) (hs : s.stack = []) (hfe : FlagEq F s s') (hz : ∀ x ∈ flagsL Fn.body, flagIs s' x 0) (f : Nat)
    (ok : (runFunc fns true f Fn s).ok = true) :
    ∃ g, FOutRel F (runFunc fns true f Fn s) (runFunc fns false g (lowerF Fn) s') :=
  branch_lowerF_sim (fns := fns) F Fn hsc hnd hF hnoesc s s' hs hfe hz f ok

/-- non-vacuity of the scope: the annotated `br_if` into a block of `exBr` (flag local 0) is in it -/
example : scopedL [0] exBr = true ∧ (flagsL exBr).Nodup ∧ (∀ x ∈ flagsL exBr, x ∈ [0]) ∧ (∀ d, d < 3 → pendingL d exBr = [])
    ∧ (exSt [1]).locals[0]? = some 0 := by decide +kernel

/-- **F14 (known finding), decided.** A `br_table` with two different target blocks: the monitor reports the probe once;
    the lowered code reports it at the inner block's `end` and, the flag never being cleared, again at the outer one's. -/
def exF14 : List Instr :=
  [ .block [] {} 0 "block"
      [ .block [] {} 0 "block" [ .brTable [] [] (some ⟨0, [1005]⟩) [0] 1 ], .probe 7 ],
    .probe 8 ]
theorem c20_branch_counterexample_flag_not_cleared :
    tr (run [] true [] 50 exF14 (exSt [0])) = [1005, 7, 8]
    ∧ tr (run [] false [] 50 (lowerL [] exF14) (exSt [0])) = [1005, 7, 1005, 8] := by decide +kernel

/-- **F15 (known finding), decided.** A branch to the function label: the monitor reports the probe when the branch
    arrives (function exit); the lowered code never emits the check. -/
def exF15 : Func := { nres := 0, body := [ .probe 7, .br [] [] (some ⟨0, [1006]⟩) 0 ] }
theorem c20_branch_counterexample_function_label :
    trF (runFunc [] true 50 exF15 (exSt [])) = [7, 1006]
    ∧ trF (runFunc [] false 50 (lowerF exF15) (exSt [])) = [7] := by decide +kernel

/-- the flat-code statement for M3, the transcription of the resolver (every body; `Lemmas/OneProbe.lean`): a semantic-after
    probe on a `block` / `loop` / `if` is encoded behind the construct's matching `end` -/
theorem c20_flat_semantic_after_placed (f : Orca.Lower.Func) (pre region post : List Orca.Lower.Instr) (sel endI : Orca.Lower.Instr)
    (pr : List Orca.Lower.Tok) (hbody : f.body = pre ++ sel :: region ++ endI :: post) (hpne : post ≠ [])
    (hsp : f.hasSpecial = true) (hentry : f.entry = []) (hexit : f.exit = [])
    (hpre : ∀ x ∈ pre, Orca.Lower.Clean x) (hreg : ∀ x ∈ region, Orca.Lower.Clean x) (hend : Orca.Lower.Clean endI)
    (hpost : ∀ x ∈ post, Orca.Lower.Clean x) (hsel : Orca.Lower.OnlySemAfter sel pr)
    (hk : sel.kind = .block ∨ sel.kind = .loop ∨ sel.kind = .if_)
    (hendk : endI.kind = .end_) (n n2 : Nat) (hd1 : Orca.Lower.depthAfter pre 1 = some n)
    (hd2 : Orca.Lower.depthAfter region 0 = some 0) (hd3 : Orca.Lower.depthAfter post n = some n2) :
    Orca.Lower.lower f = (Orca.Lower.toks pre ++ [sel.tok] ++ Orca.Lower.toks region ++ [endI.tok] ++ pr ++ Orca.Lower.toks post, f.added) :=
  Orca.Lower.semAfter_placed f pre region post sel endI pr hbody hpne hsp hentry hexit hpre hreg hend hpost hsel hk hendk n n2 hd1 hd2 hd3

end Orca.Sem

namespace Orca.Lower

/-- **flat code, every plan.** Not only a single probe (`…_placed` above): for any number of semantic-after (on constructs) probes, together with any other
    block-level probes and `before` / `after` code, on any constructs nested in any way, the encoded function is what the stack machine
    `specRun` defines (Lemmas/StackSpec.lean), which puts semantic-after (on constructs) code behind the matching `end` (`specStep`: the frame's `afterA` list is emitted behind the `end` that pops it; the probes of an `else` join those of its `if`). -/
theorem c20_flat_every_plan (f : Func) (hsp : f.hasSpecial = true) (hentry : f.entry = []) (hexit : f.exit = [])
    (hp : ∀ x ∈ f.body, Plain x) (out : List Tok) (hs : specRun (f.body.length - 1) 0 [{}] f.body = some out) :
    lower f = (out, f.added) :=
  lower_eq_spec f hsp hentry hexit hp out hs

/-- **Semantic-after probes on branches in every plan (flat).** For every plan — several flagged branches, targeting the same or
    different constructs, next to block-level probes, alternates and function-level code — the encoded body is the one `specRunF`
    computes: a fresh i32 flag per flagged branch (`i32.const 1; local.set f` in front of it, `i32.const 0; local.set f` behind it, and
    for `br_if` also the probe itself behind that, for the fall-through), and the probe, guarded by the flag, behind the `end` of every
    construct the branch may leave to (`parkAllF`: one frame per target of a `br_table`; `endAfter`: the guarded bodies in front of the
    unguarded semantic-after code of the construct). A target that is the function's own label addresses the function body's frame,
    whose code would stand behind the final `end` and is not emitted — finding F15, visible here as a property of the machine. -/
theorem c20_flat_branch_probes_every_plan (f : Func) (hsp : f.hasSpecial = true) (hp : ∀ x ∈ f.body, PlainF x) (out : List Tok)
    (nlf : Nat) (hs : specRunF (f.body.length - 1) (entryToks f) f.exit 0 [{}] none f.nlocals f.body = some (out, nlf)) :
    lower f = (out, f.added + (nlf - f.nlocals)) :=
  lower_eq_specF f hsp hp out nlf hs

/-- **A semantic-after probe on a branch reaches the output unless the branch can only go to the function's label** (every plan
    without block alternates): for each branch with a probe at nesting depth `d`, if it is a `br_if` (the inline copy) or one of its
    targets is smaller than `d` (a construct, not the function), every token of the probe is in the encoded function. -/
theorem c20_branch_probe_kept_unless_function_label (f : Func) (hsp : f.hasSpecial = true) (hp : ∀ x ∈ f.body, PlainF x)
    (hna : ∀ x ∈ f.body, x.blockAlt = none) (out : List Tok) (nlf : Nat)
    (hs : specRunF (f.body.length - 1) (entryToks f) f.exit 0 [{}] none f.nlocals f.body = some (out, nlf)) :
    KeptAll 0 f.body (lower f).1 :=
  lower_keeps_all_F f hsp hp hna out nlf hs

/-! non-vacuity (decided): two flagged branches leaving the same block (locals 5 and 6): the guarded bodies are chained `if … else
    … end end` behind the block's `end`; a `br 1` out of the function from inside a block parks at the function's own frame and its body
    is not emitted (F15) -/
private def mkI20 (t : Tok) (k : Kind) : Instr := { tok := t, kind := k }
set_option maxRecDepth 20000 in
example :
    let body : List Instr :=
      [mkI20 "block" .block, { mkI20 "br 0" (.br 0) with semAfter := ["S1"] }, { mkI20 "br_if 0" (.brIf 0) with semAfter := ["S2"] },
       { mkI20 "br 1" (.br 1) with semAfter := ["LOST"] }, mkI20 "end" .end_, mkI20 "end" .end_]
    let f : Func := { body := body, hasSpecial := true, nlocals := 5 }
    lower f = (["block", "i32.const:1", "local.set:5", "br 0", "i32.const:0", "local.set:5",
                "i32.const:1", "local.set:6", "br_if 0", "i32.const:0", "local.set:6", "S2",
                "i32.const:1", "local.set:7", "br 1", "i32.const:0", "local.set:7",
                "end", "local.get:5", "if", "S1", "else", "local.get:6", "if", "S2", "end", "end", "end"], 3) := by
  decide +kernel

end Orca.Lower

/-- **The tie to the source (regenerated on every run).** The skeletons of `plan_resolution_semantic_after`, `create_bool_flag` and
    `save_flagged_body_to_resolve` are what the semantic-after stage of `planSpecial` (its `flag` and `park`) was transcribed from. -/
theorem c20_semantic_after_code_reviewed :
    Orca.Gen.Outline.plan_resolution_semantic_after = Orca.Lower.Outline.plan_resolution_semantic_after
    ∧ Orca.Gen.Outline.create_bool_flag = Orca.Lower.Outline.create_bool_flag
    ∧ Orca.Gen.Outline.save_flagged_body_to_resolve = Orca.Lower.Outline.save_flagged_body_to_resolve :=
  ⟨rfl, rfl, rfl⟩

/-- The code's lowering (M3 `Lower.lower`: `resolve_special_instrumentation` and the emission loop) of the flattened function `flatF F nl`
    emits the tree lowering's tokens, `flattenF (lowerF F)` = `toksL (lowerF F).body ++ ["end"]`, and adds one local per flagged branch. Scope:
    `okL`, branch depths inside the function, flags numbered from `nl`, no `entry` / `exit` code beside `before` code on instruction 0 (Lemmas/Bridge.lean). -/
theorem c20_code_lowering_is_tree_lowering (F : Orca.Sem.Func) (nl : Nat) (hok : Orca.Bridge.okL F.body = true)
    (hd : Orca.Bridge.depthOkL 1 F.body = true)
    (hnum : Orca.Sem.flagsL F.body = List.range' nl (Orca.Sem.flagsL F.body).length)
    (hfirst : (F.entry = [] ∧ F.exit = []) ∨ ((Orca.Bridge.flatF F nl).body.head?.map (·.before)) = some []) :
    Orca.Lower.lower (Orca.Bridge.flatF F nl)
      = (Orca.SemTree.flattenF (Orca.Sem.lowerF F), (Orca.Sem.flagsL F.body).length) :=
  Orca.Bridge.code_lowering_is_flattened_tree_lowering F nl hok hd hnum hfirst

/-! non-vacuity (decided): a function with exit probes whose body is a block with an exit probe containing a flagged `br_if 0` (flag
    local 2) and a `return`: every hypothesis of the bridge holds -/
private def exBridgeBody : List Orca.Sem.Instr :=
  [.block [] { exit := [5] } 0 "block" [.op [] [] (.const 1), .brIf [] [] (some ⟨2, [9]⟩) 0, .ret [] []]]
private def exBridge : Orca.Sem.Func := { nres := 0, exit := [7], body := exBridgeBody }
set_option maxRecDepth 40000 in
example :
    Orca.Bridge.okL exBridge.body = true ∧ Orca.Bridge.depthOkL 1 exBridge.body = true
    ∧ Orca.Sem.flagsL exBridge.body = List.range' 2 (Orca.Sem.flagsL exBridge.body).length
    ∧ ((Orca.Bridge.flatF exBridge 2).body.head?.map (·.before)) = some []
    ∧ (Orca.Lower.lower (Orca.Bridge.flatF exBridge 2)).2 = 1 := by
  decide +kernel
