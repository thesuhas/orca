import Orca.Lemmas.OneProbe
import Orca.Gen.ResolverOutline
import Orca.Model.ResolverOutlineSpec
import Orca.Lemmas.StackFull
/-!
# C21 — block alternate replaces exactly the selected construct

Model: `Orca.Lower` (M3), `resolveSpecial` with its `delete_block` / `retain_end` tracking.

`c21_block_alt_region` / `c21_else_alt_region` are the property for **every** body: a function whose only instrumentation is one
block alternate is encoded as the code in front of the selected construct, the replacement, the code behind the construct's
matching `end` (for `else`: the keyword and its arm are replaced, the `end` stays) — whatever the nesting in front of, inside and
behind the construct, for an empty replacement too, and without adding a local. For bodies with further instrumentation (other modes
outside the removed region, special lists inside it, nested alternates): `c21_resolver_is_a_stack_machine` and the region theorems on
the machine, `c21_region_in_any_context`, `c21_else_in_any_context`.
-/
namespace Orca.Lower

/-- index of the `end` that closes the construct opened at `i` (for `else`: the `end` of its `if`), by nesting depth -/
def matchEndFrom : List Instr → Nat → Nat → Option Nat
  | [], _, _ => none
  | x :: xs, k, depth =>
    match x.kind with
    | .block | .loop | .if_ => matchEndFrom xs (k + 1) (depth + 1)
    | .end_ => if depth = 0 then some k else matchEndFrom xs (k + 1) (depth - 1)
    | _ => matchEndFrom xs (k + 1) depth

def matchEnd (b : List Instr) (i : Nat) : Option Nat := matchEndFrom (b.drop (i + 1)) (i + 1) 0

/-- what `plan_resolution_block_alt` does to the body: at the selected instruction the replacement becomes the alternate (an empty
    replacement the empty alternate) and every special list is discarded; no other instruction changes -/
theorem c21_plan_at_selected (b : List Instr) (idx : Nat) (x : Instr) (repl : List Tok) (hx : b[idx]? = some x) :
    (planBlockAlt b idx repl)[idx]? =
      some { x with mode := if repl.isEmpty then x.mode else some .alternate,
                    alt := if repl.isEmpty then some [] else some ((x.alt.getD []) ++ repl),
                    semAfter := [], blockEntry := [], blockExit := [], blockAlt := none }
    ∧ (∀ j, j ≠ idx → (planBlockAlt b idx repl)[j]? = b[j]?) := by
  unfold planBlockAlt discardSpecial setEmptyAlt
  by_cases hr : repl.isEmpty
  · have h1 := modifyAt_get b idx (fun i => { i with alt := some [] }) x hx
    have h2 := modifyAt_get _ idx (fun i => { i with semAfter := [], blockEntry := [], blockExit := [], blockAlt := none }) _ h1.1
    simp only [hr, if_true]
    exact ⟨h2.1, fun j hj => by rw [h2.2.1 j hj, h1.2.1 j hj]⟩
  · have h1 := modifyAt_get b idx (fun i => { i with mode := some .alternate, alt := some ((i.alt.getD []) ++ repl) }) x hx
    have h2 := modifyAt_get _ idx (fun i => { i with semAfter := [], blockEntry := [], blockExit := [], blockAlt := none }) _ h1.1
    simp only [hr, Bool.false_eq_true, if_false]
    exact ⟨h2.1, fun j hj => by rw [h2.2.1 j hj, h1.2.1 j hj]⟩

private def mk (t : Tok) (k : Kind) : Instr := { tok := t, kind := k }

/-- the specification on concrete nested bodies (decided in the kernel): replacing the outer block, an inner loop,
    an `if` with both arms, an `else` arm (keyword and arm go, `end` stays), an empty replacement -/
example :
    let body := [mk "a" .other, mk "block" .block, mk "b" .other, mk "loop" .loop, mk "c" .other, mk "end" .end_,
                 mk "end" .end_, mk "d" .other, mk "end" .end_]
    let go (ops : List ApiOp) := (applyAll { body := body } ops).map (fun f => (lower f).1)
    go [.setMode 1 .blockAlt, .inject 1 "R"] = some ["a", "R", "d", "end"]
    ∧ go [.setMode 3 .blockAlt, .inject 3 "R", .inject 3 "S"] = some ["a", "block", "b", "R", "S", "end", "d", "end"]
    ∧ go [.emptyBlockAlt 1] = some ["a", "d", "end"]
    ∧ (matchEnd body 1 = some 6 ∧ matchEnd body 3 = some 5) := by decide +kernel

example :
    let body := [mk "c" .other, mk "if" .if_, mk "t" .other, mk "else" .else_, mk "block" .block, mk "e" .other, mk "end" .end_,
                 mk "end" .end_, mk "z" .other, mk "end" .end_]
    let go (ops : List ApiOp) := (applyAll { body := body } ops).map (fun f => (lower f).1)
    go [.setMode 1 .blockAlt, .inject 1 "R"] = some ["c", "R", "z", "end"]
    ∧ go [.setMode 3 .blockAlt, .inject 3 "R"] = some ["c", "if", "t", "R", "end", "z", "end"]
    ∧ go [.emptyBlockAlt 3] = some ["c", "if", "t", "end", "z", "end"] := by decide +kernel

/-- **C21 for every body** (block / loop / if): `pre` is the code in front (any nesting, need not be balanced), `region` the
    inside of the construct (any balanced sequence), `endI` its `end`, `post` the rest of the function. -/
theorem c21_block_alt_region (f : Func) (pre region post : List Instr) (sel endI : Instr) (repl : List Tok)
    (hbody : f.body = pre ++ sel :: region ++ endI :: post) (hpne : post ≠ [])
    (hsp : f.hasSpecial = true) (hentry : f.entry = []) (hexit : f.exit = [])
    (hpre : ∀ x ∈ pre, Clean x) (hreg : ∀ x ∈ region, Clean x) (hend : Clean endI) (hpost : ∀ x ∈ post, Clean x)
    (hsel : SelOnly sel repl) (hk : sel.kind = .block ∨ sel.kind = .loop ∨ sel.kind = .if_) (hendk : endI.kind = .end_)
    (n n2 : Nat) (hd1 : depthAfter pre 1 = some n) (hd2 : depthAfter region 0 = some 0) (hd3 : depthAfter post n = some n2) :
    lower f = (toks pre ++ repl ++ toks post, f.added) := by
  have hne := opener_blockStyle hk
  have := blockAlt_any f pre region post sel endI repl hbody hpne hsp hentry hexit hpre hreg hend hpost hsel
    hne.2 hendk n n2 (by rw [if_neg hne.1]; exact hd1) hd2 hd3
  simpa [hne.1] using this

/-- **C21 for every body** (else): the keyword and the arm are replaced, the `end` of the `if` stays -/
theorem c21_else_alt_region (f : Func) (pre region post : List Instr) (sel endI : Instr) (repl : List Tok)
    (hbody : f.body = pre ++ sel :: region ++ endI :: post) (hpne : post ≠ [])
    (hsp : f.hasSpecial = true) (hentry : f.entry = []) (hexit : f.exit = [])
    (hpre : ∀ x ∈ pre, Clean x) (hreg : ∀ x ∈ region, Clean x) (hend : Clean endI) (hpost : ∀ x ∈ post, Clean x)
    (hsel : SelOnly sel repl) (hk : sel.kind = .else_) (hendk : endI.kind = .end_)
    (n n2 : Nat) (hd1 : depthAfter pre 1 = some (n + 1)) (hd2 : depthAfter region 0 = some 0) (hd3 : depthAfter post n = some n2) :
    lower f = (toks pre ++ repl ++ [endI.tok] ++ toks post, f.added) := by
  have := blockAlt_any f pre region post sel endI repl hbody hpne hsp hentry hexit hpre hreg hend hpost hsel
    (by rw [hk]; rfl) hendk n n2 (by rw [if_pos hk]; exact hd1) hd2 hd3
  simpa [hk] using this

/-- the API produces such functions: selecting block-alt on a clean block-structured instruction and injecting a
    replacement gives `SelOnly`, marks the function, and leaves every other instruction as it was -/
theorem c21_api_gives_selOnly (f f2 : Func) (idx : Nat) (x : Instr) (t : Tok) (hx : f.body[idx]? = some x) (hc : Clean x)
    (hb : x.kind.isBlockStyle = true) (hf : f.fmode = none)
    (h : applyAll f [.setMode idx .blockAlt, .inject idx t] = some f2) :
    ∃ y, f2.body[idx]? = some y ∧ SelOnly y [t] ∧ y.kind = x.kind ∧ y.tok = x.tok ∧ f2.hasSpecial = true
      ∧ f2.entry = f.entry ∧ f2.exit = f.exit ∧ (∀ j, j ≠ idx → f2.body[j]? = f.body[j]?) := by
  have hadd : ({ x with mode := some .blockAlt } : Instr).addInstr t
      = some ({ x with mode := some .blockAlt, blockAlt := some [t] }, true) := by
    simp [Instr.addInstr, hb, hc.blockAlt]
  obtain ⟨f2', h', h1, h2, h3, h4, h5, -⟩ := setMode_inject f idx .blockAlt t x _ _ hx hadd
  cases h'.symm.trans h
  exact ⟨_, h4, ⟨hc.before, hc.after, hc.alt, hc.semAfter, hc.blockEntry, hc.blockExit, rfl⟩, rfl, rfl, h1.trans (Bool.or_true _), h2, h3, h5⟩

/-! non-vacuity of the hypotheses of the region theorems on a nested body -/
set_option maxRecDepth 8000 in
example :
    let a : Instr := mk "a" .other
    let pre := [a, mk "block" .block]
    let sel : Instr := { mk "loop" .loop with blockAlt := some ["R"] }
    let region := [mk "b" .other, mk "if" .if_, mk "c" .other, mk "else" .else_, mk "d" .other, mk "end" .end_]
    let post := [mk "e" .other, mk "end" .end_, mk "end" .end_]
    depthAfter pre 1 = some 2 ∧ depthAfter region 0 = some 0 ∧ depthAfter post 2 = some 0
      ∧ (lower { body := pre ++ sel :: region ++ mk "end" .end_ :: post, hasSpecial := true }).1
          = ["a", "block", "R", "e", "end", "end"] := by decide +kernel

/-- **The resolver is a stack machine, alternates included.** For a marked function without function-level code, with a plan made of
    `before` / `after` code anywhere, block-entry / block-exit / semantic-after probes and block alternates on constructs — any number of
    each, in any combination and nesting — and a body the machine accepts (`hs`), the encoded body is the one the extended stack machine
    `specRunA` defines (Lemmas/StackAlt.lean): while a construct is being removed every instruction is emptied (special lists discarded;
    its plain `before` / `after` lists are kept, as in the code), alternates inside a removed region go with it, an alternate on an
    `else` removes the arm and keeps the `end`. -/
theorem c21_resolver_is_a_stack_machine (f : Func) (hsp : f.hasSpecial = true) (hentry : f.entry = []) (hexit : f.exit = [])
    (hp : ∀ x ∈ f.body, PlainA x) (out : List Tok) (hs : specRunA (f.body.length - 1) 0 [{}] none f.body = some out) :
    lower f = (out, f.added) :=
  lower_eq_specA f hsp hentry hexit hp out hs

/-- **The region theorem in any context** (`block` / `loop` / `if`): whatever frames are pending around the construct (exit and
    semantic-after probes of enclosing constructs, if-exit code waiting for an `else`), the machine emits the opener's `before` code, the
    replacement, the plain lists of the removed instructions, and continues behind the matching `end` **with exactly the frames it had in
    front of the construct and nothing being removed**: every probe outside the construct is placed as if the construct were not there.
    (`altOf X alt` is the replacement itself; when the opener also carried an instruction-level alternate, the code appends the replacement
    to it — `c21_alt_of_plain_opener`.) -/
theorem c21_region_in_any_context (last idx : Nat) (b : Fr) (base' : List Fr) (X endI : Instr) (region post : List Instr) (alt : List Tok)
    (hk : X.kind = .block ∨ X.kind = .loop ∨ X.kind = .if_) (hx : X.blockAlt = some alt) (hreg : depthAfter region 0 = some 0)
    (hend : endI.kind = .end_) (hl : idx + region.length + 2 ≤ last) (hpost : post ≠ []) :
    specRunA last idx (b :: base') none (X :: (region ++ endI :: post))
      = (specRunA last (idx + region.length + 2) (b :: base') none post).map
          (fun o => X.before ++ altOf X alt ++ X.after ++ removedToks region ++ endI.before ++ endI.after ++ o) :=
  specRunA_alt_open last idx b base' X endI region post alt hk hx hreg hend hl hpost

/-- the replacement as it is emitted: `alt` itself on an opener without an instruction-level alternate -/
theorem c21_alt_of_plain_opener (X : Instr) (alt : List Tok) (h : X.alt = none) : altOf X alt = alt := altOf_none X alt h

/-- **The region theorem in any context** (`else`): the if-exit code waiting for the `else` goes in front of the replacement, the arm
    contributes only its plain lists, and the `end` of the `if` closes the frame as if nothing had been removed. -/
theorem c21_else_in_any_context (last idx : Nat) (top b : Fr) (base' : List Fr) (X endI : Instr) (region post : List Instr) (alt : List Tok)
    (hk : X.kind = .else_) (hx : X.blockAlt = some alt) (hreg : depthAfter region 0 = some 0)
    (hend : endI.kind = .end_) (hl : idx + region.length + 1 ≤ last) :
    specRunA last idx (top :: b :: base') none (X :: (region ++ endI :: post))
      = (specRunA last (idx + region.length + 1) ({ top with ifExit := [] } :: b :: base') none (endI :: post)).map
          (fun o => X.before ++ top.ifExit ++ altOf X alt ++ X.after ++ removedToks region ++ o) :=
  specRunA_alt_else last idx top b base' X endI region post alt hk hx hreg hend hl

/-! non-vacuity (decided): an alternate on the `else` of an `if` that carries a block-exit probe (the shape of seeded change
    C21-if-exit-resolved-after-else-alt), inside a block with exit and semantic-after probes; and an alternate on a loop next to them -/
set_option maxRecDepth 8000 in
example :
    let body : List Instr :=
      [{ mk "block" .block with blockExit := ["X1"], semAfter := ["A1"] },
       { mk "if" .if_ with blockExit := ["X2"], semAfter := ["A2"] },
       mk "c" .other,
       { mk "else" .else_ with blockAlt := some ["R"], blockExit := ["gone"] },
       { mk "loop" .loop with blockEntry := ["gone2"] }, mk "end" .end_,
       mk "end" .end_,
       { mk "loop" .loop with blockAlt := some [] }, mk "d" .other, mk "end" .end_,
       mk "end" .end_, mk "end" .end_]
    specRunA 11 0 [{}] none body = some ["block", "if", "c", "X2", "R", "end", "A2", "X1", "end", "A1", "end"]
    ∧ (lower { body := body, hasSpecial := true }).1 = ["block", "if", "c", "X2", "R", "end", "A2", "X1", "end", "A1", "end"] := by
  decide +kernel

end Orca.Lower

/-- **The tie to the source (regenerated on every run).** The skeletons of `plan_resolution_block_alt` and
    `discard_special_instrumentation` are what `planBlockAlt` / `discardSpecial` and the `retain_end` rule were transcribed from. -/
theorem c21_block_alt_code_reviewed :
    Orca.Gen.Outline.plan_resolution_block_alt = Orca.Lower.Outline.plan_resolution_block_alt
    ∧ Orca.Gen.Outline.discard_special_instrumentation = Orca.Lower.Outline.discard_special_instrumentation :=
  ⟨rfl, rfl⟩
