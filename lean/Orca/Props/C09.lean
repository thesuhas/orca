import Orca.Lemmas.Ops
import Orca.Gen.ApiOutline
import Orca.Model.ApiOutlineSpec
import Orca.Lemmas.Preserve
/-!
# C09 — deletion removes exactly the deleted entity
-/
namespace Orca.Reindex

/-- exactly the entries not marked deleted survive re-indexing (each once), and a deleted entry's id is in no map:
    every reference to it makes the rewriting code panic instead of designating another entity -/
theorem c09_survivors_and_unmapped (orig : Nat) (xs : List Item) (h : orig ≤ xs.length) (hf : IdsFresh xs) :
    ∃ ys, recalculate orig xs = some ys
      ∧ ys.Perm (xs.filter (fun x => !x.del))
      ∧ (∀ i x, xs[i]? = some x → x.del = true → mapping ys i = none) := by
  obtain ⟨ys, hrec, _, hperm, _, hdead, _⟩ := recalculate_spec orig xs h hf
  exact ⟨ys, hrec, hperm, hdead⟩

end Orca.Reindex

namespace Orca.Edit
open Orca.Reindex

/-- deleting a local entity marks exactly the addressed entry and leaves the import list alone (for an imported one the import
    entry it records is marked as well: `deleteEntity_imported`, Lemmas/Ops.lean) -/
theorem c09_delete_marks_one (s : St) (sp : Sp) (id : Nat) (x : Item) (hx : (s.space sp).items[id]? = some x)
    (hloc : x.imp = false) :
    let r := deleteEntity s sp id
    r.2 = Ret.unit ∧ ((r.1.space sp).items[id]? = some { x with del := true })
    ∧ (∀ j, j ≠ id → (r.1.space sp).items[j]? = (s.space sp).items[j]?) ∧ r.1.imports = s.imports := by
  rw [deleteEntity_local hx hloc]
  exact ⟨rfl, by simpa using getElem?_markDel_self hx, fun j hj => by simp [getElem?_markDel, Ne.symm hj], imports_setSpace ..⟩

/-- **Loud failure.** If encoding succeeds, every emitted reference designates a live entity; if it panics, some stored
    reference designated a deleted entity (or none). -/
theorem c09_dangling_is_loud (s : St) (hf : SpaceInv s.f s.imports .F) (hg : SpaceInv s.g s.imports .G)
    (hm : SpaceInv s.m s.imports .M) :
    (∃ s' F G M res st, encode s = (s', Ret.encoded F G M res st)
        ∧ ∀ r' ∈ res ++ st.toList, ∃ r ∈ allRefs s, r'.site = r.site ∧ ∃ u, PointsTo s r u ∧ designated F G M r' = some u)
    ∨ (∃ s' why, encode s = (s', Ret.panic why) ∧ ∃ r ∈ allRefs s, Dangling s r) := by
  refine (encode_spec s hf hg hm).imp_left ?_
  rintro ⟨s', F, G, M, res, st, he, h⟩
  refine ⟨s', F, G, M, res, st, he, fun r' hr' => ?_⟩
  obtain ⟨r, hr, a, _, u, c, d⟩ := h r' hr'
  exact ⟨r, hr, a, u, c, d⟩

/-- the index space of the encoded module contains exactly the entities of the re-indexed vector, none deleted -/
theorem c09_output_has_no_deleted (x : Space) (I : List ImpEntry) (sp : Sp) (inv : SpaceInv x I sp) :
    ∃ ys, remap x = some ys ∧ impUids I sp ++ emittedLocals ys = ys.map (·.uid) ∧ ∀ y ∈ ys, y.del = false := by
  obtain ⟨ys, h, R⟩ := remap_spec x I sp inv
  exact ⟨ys, h, R.out, R.noDeleted⟩

/-- `c09_dangling_is_loud` and `c09_output_has_no_deleted` after **any** history of edits on a parsed module, deletions of
    anything in any order included -/
theorem c09_after_any_history (s0 : St) (h0 : StInv s0) (ops : List Op) (hn : NoEncode ops) :
    let s := (run s0 ops).1
    ((∃ s' F G M res st, encode s = (s', Ret.encoded F G M res st)
        ∧ ∀ r' ∈ res ++ st.toList, ∃ r ∈ allRefs s, r'.site = r.site ∧ ∃ u, PointsTo s r u ∧ designated F G M r' = some u)
      ∨ (∃ s' why, encode s = (s', Ret.panic why) ∧ ∃ r ∈ allRefs s, Dangling s r))
    ∧ ∀ sp, ∃ ys, remap (s.space sp) = some ys ∧ impUids s.imports sp ++ emittedLocals ys = ys.map (·.uid) ∧ ∀ y ∈ ys, y.del = false := by
  intro s
  have h := stInv_run ops s0 hn h0
  exact ⟨c09_dangling_is_loud _ h.f.spaceInv h.g.spaceInv h.m.spaceInv,
    fun sp => c09_output_has_no_deleted _ _ _ ((stInv_iff _).mp h sp).spaceInv⟩

end Orca.Edit

/-- **The tie to the source (regenerated on every run).** The control-and-call skeletons of the functions this property rests on:
    the three deletion calls are what M2's deletions were transcribed from. A step moved, an early exit, guard, call or assignment added or removed breaks this obligation; renaming, comments and
    formatting do not. -/
theorem c09_deletion_code_reviewed :
    Orca.Gen.ApiOutline.delete_func = Orca.ApiOutlineSpec.delete_func
    ∧ Orca.Gen.ApiOutline.delete_global = Orca.ApiOutlineSpec.delete_global
    ∧ Orca.Gen.ApiOutline.delete_memory = Orca.ApiOutlineSpec.delete_memory :=
  ⟨rfl, rfl, rfl⟩
