import Orca.Gen.RefTables
import Orca.Gen.ApiOutline
import Orca.Model.ApiOutlineSpec
import Orca.Lemmas.Ops
import Orca.Lemmas.Preserve
import Orca.Lemmas.Redirect
import Orca.Lemmas.Parsed
import Orca.Gen.MapSites
/-!
# C06 — function references stay bound to the same function across edits

Models: `Orca.Reindex` (M1: `reorganise_generic`, `order_imports_generic`, `get_mapping_generic`) and
`Orca.Edit` (M2: the edit API and `encode_internal`'s reference rewriting), as they are after the repairs
recorded in known-findings.txt. The statements about index spaces cover all three spaces at once; C07 and C08
add what is specific to globals and memories.

`SpaceInv` is the state invariant under which encoding is correct: stored ids are positions (`IdsFresh`), the live
imported entries of a vector correspond, in import order, to the live import entries (`agree`), and a vector that
is not flagged for re-indexing is already laid out (`settled`). Its inductive form `StInv` holds for every parsed module
(`c06_invariant_of_every_parsed_module`) and every operation of the edit API except `encode` preserves it
(`c06_invariant_is_inductive`, Lemmas/Preserve.lean); the model driver evaluates the decidable form on every generated
history as well (line `inv=`).
-/
namespace Orca.Reindex

/-- the re-indexing loop in closed form, for every vector and every number of original imports: kept original
    imports, then imports that sit among the locals, then kept locals, then former imports that became local;
    nothing marked deleted survives and relative order inside each group is preserved -/
theorem c06_reorganise_closed_form (orig : Nat) (xs : List Item) (h : orig ≤ xs.length) :
    reorganise orig xs =
      (xs.take orig).filter keepImp ++ (xs.drop orig).filter keepImp
        ++ (xs.drop orig).filter keepLoc ++ (xs.take orig).filter keepLoc :=
  reorganise_eq orig xs h

/-- `Vec::remove` / `Vec::insert` inside the loop never go out of range -/
theorem c06_reorganise_in_range (orig : Nat) (xs : List Item) (h : orig ≤ xs.length) :
    rloopOk orig { live := xs, numImported := orig, numDeleted := 0 } 0 xs = true :=
  rloopOk_true orig xs h

/-- **New positions.** With stored ids equal to positions, re-indexing succeeds (the `assert_eq!` on the map size
    holds), keeps exactly the entries not marked deleted, and the id map sends the id of every live entry to the new
    position *of that entry*; ids of deleted entries and ids out of range are not in the map. -/
theorem c06_new_positions (orig : Nat) (xs : List Item) (h : orig ≤ xs.length) (hf : IdsFresh xs) :
    ∃ ys, recalculate orig xs = some ys
      ∧ ys.Perm (xs.filter (fun x => !x.del))
      ∧ (∀ i x, xs[i]? = some x → x.del = false → ∃ p, mapping ys i = some p ∧ ys[p]? = some x)
      ∧ (∀ i x, xs[i]? = some x → x.del = true → mapping ys i = none)
      ∧ (∀ i, xs.length ≤ i → mapping ys i = none) := by
  obtain ⟨ys, hrec, _, hperm, hlive, hdead, hoob⟩ := recalculate_spec orig xs h hf
  exact ⟨ys, hrec, hperm, hlive, hdead, hoob⟩

/-- non-vacuity: convert local 3 and local 2 to imports (in that order), delete the added import 5 and the local 4 -/
example : (reorganise 2 [⟨0, true, false, 10, 0⟩, ⟨1, true, true, 11, 1⟩, ⟨2, true, false, 12, 4⟩, ⟨3, true, false, 13, 3⟩,
      ⟨4, false, true, 14, 0⟩, ⟨5, true, true, 15, 2⟩, ⟨6, false, false, 16, 0⟩]).map (·.uid) = [10, 12, 13, 16] := by decide +kernel
example : (orderImports [⟨0, true, false, 10, 0⟩, ⟨2, true, false, 12, 4⟩, ⟨3, true, false, 13, 3⟩, ⟨6, false, false, 16, 0⟩]).map (·.uid)
    = [10, 13, 12, 16] := by decide +kernel

end Orca.Reindex

namespace Orca.Gen

/-- `refers_to_func` recognises exactly the operators with a function immediate, and `update_fn_instr` rewrites it -/
theorem c06_func_ref_ops_complete : ∀ op : Op, wirmRefersFunc op = specFunc op
    ∧ wirmUpdatedFuncFields op = (if specFunc op then 1 else 0) := by
  intro op; unfold wirmRefersFunc wirmUpdatedFuncFields specFunc; split <;> simp

end Orca.Gen

namespace Orca.Edit
open Orca.Reindex

/-- **The import section order agrees with the index space.** After the first step of `encode_internal`, the
    positions of a vector are the indices of the encoded module: the import section's entries of the kind followed by
    the emitted locals is, entity by entity, the vector itself. -/
theorem c06_index_space_is_vector (x : Space) (I : List ImpEntry) (sp : Sp) (inv : SpaceInv x I sp) :
    ∃ ys, remap x = some ys ∧ impUids I sp ++ emittedLocals ys = ys.map (·.uid) ∧ (∀ y ∈ ys, y.del = false) := by
  obtain ⟨ys, h, R⟩ := remap_spec x I sp inv
  exact ⟨ys, h, R.out, R.noDeleted⟩

/-- **Every reference designates the entity the caller's id designated.** `encode` either succeeds — then every
    emitted reference (calls, tail calls, `ref.func` in code, global initialisers, element expressions and table
    initialisers, function exports, element function lists, references inside injected code, the start function)
    designates, in the index spaces of the encoded module, the live entity that its stored id designated — or fails
    loudly, and then some stored reference designated a deleted entity. -/
theorem c06_encode_refs (s : St) (hf : SpaceInv s.f s.imports .F) (hg : SpaceInv s.g s.imports .G)
    (hm : SpaceInv s.m s.imports .M) :
    (∃ s' F G M res st, encode s = (s', Ret.encoded F G M res st)
        ∧ (∀ r' ∈ res ++ st.toList, ∃ r ∈ allRefs s, r'.site = r.site ∧ r'.sp = r.sp
            ∧ ∃ u, PointsTo s r u ∧ designated F G M r' = some u))
    ∨ (∃ s' why, encode s = (s', Ret.panic why) ∧ ∃ r ∈ allRefs s, Dangling s r) :=
  encode_spec s hf hg hm

/-- **a reported id is new.** With stored ids equal to positions (`IdsFresh`, a clause of the state invariant of every state reached
    from a parsed module before an encode), the id reported for an added function - the length of the vector - is held by no entity of
    the space, live or deleted (the `edit` family judges this on the crate: signature `F-returned-id-already-in-use`). -/
theorem c06_reported_id_is_new (s : St) (hf : IdsFresh s.f.items) (it : Item) (hit : it ∈ s.f.items) :
    it.id ≠ s.f.items.length :=
  Nat.ne_of_lt (idsFresh_id_lt hf hit)

/-- the ids reported by the function additions are the positions the functions are stored at -/
theorem c06_added_function_ids (s : St) (uid : Nat) (sites : List Ref) :
    (addImportFunc s uid).2 = Ret.id2 s.f.items.length s.imports.length
    ∧ (addLocalFunc s uid sites).2 = Ret.id s.f.items.length :=
  ⟨rfl, rfl⟩

/-- **the invariant is inductive**: every operation of the edit API except `encode` preserves it, whatever it reports. -/
theorem c06_invariant_is_inductive (s : St) (op : Op) (hop : op ≠ .encode) (h : StInv s) : StInv (step s op).1 :=
  stInv_step s op hop h

theorem c06_invariant_of_parsed (s : St) (hb : stInvB s = true)
    (hf : ∀ it ∈ s.f.items, it.del = false) (hg : ∀ it ∈ s.g.items, it.del = false) (hm : ∀ it ∈ s.m.items, it.del = false) :
    StInv s := stInv_of_parsed s hb hf hg hm

/-- `c06_encode_refs` after **any** history of edits on a parsed module: no hypothesis on the state that is encoded -/
theorem c06_encode_refs_after_any_history (s0 : St) (h0 : StInv s0) (ops : List Op) (hn : NoEncode ops) :
    let s := (run s0 ops).1
    (∃ s' F G M res st, encode s = (s', Ret.encoded F G M res st)
        ∧ (∀ r' ∈ res ++ st.toList, ∃ r ∈ allRefs s, r'.site = r.site ∧ r'.sp = r.sp
            ∧ ∃ u, PointsTo s r u ∧ designated F G M r' = some u))
    ∨ (∃ s' why, encode s = (s', Ret.panic why) ∧ ∃ r ∈ allRefs s, Dangling s r) :=
  let h := spaceInv_after s0 h0 ops hn
  encode_spec _ h.1 h.2.1 h.2.2

/-- **every parsed module satisfies the invariant**: the state `Module::parse` builds — for any import list (kinds interleaved in any
    way) and any numbers of local functions, globals and memories, whatever the reference sites, exports and data are — satisfies it.
    No per-case check is involved. -/
theorem c06_invariant_of_every_parsed_module (I : List ImpEntry) (lf lg lm : List Nat) (rest : St) :
    StInv (parsedState I lf lg lm rest) := stInv_parsedState I lf lg lm rest

/-- the driver's check that the initial state of a generated case has the parsed shape is sound -/
theorem c06_parsed_shape_check_sound (s : St) (h : parsedStateB s = true) : StInv s := stInv_of_parsedStateB s h

/-- `c06_encode_refs` for **every parsed module and every history**: no hypothesis that is not about the shape of the input -/
theorem c06_encode_refs_every_module_every_history (I : List ImpEntry) (lf lg lm : List Nat) (rest : St) (ops : List Op) (hn : NoEncode ops) :
    let s := (run (parsedState I lf lg lm rest) ops).1
    (∃ s' F G M res st, encode s = (s', Ret.encoded F G M res st)
        ∧ (∀ r' ∈ res ++ st.toList, ∃ r ∈ allRefs s, r'.site = r.site ∧ r'.sp = r.sp
            ∧ ∃ u, PointsTo s r u ∧ designated F G M r' = some u))
    ∨ (∃ s' why, encode s = (s', Ret.panic why) ∧ ∃ r ∈ allRefs s, Dangling s r) :=
  c06_encode_refs_after_any_history _ (stInv_parsedState I lf lg lm rest) ops hn

/-- non-vacuity: a table import between two function imports, one local function -/
example : (parsedState [⟨some Sp.F, false, 1⟩, ⟨none, false, 2⟩, ⟨some Sp.F, false, 3⟩, ⟨some Sp.G, false, 4⟩] [5] [] [] {}).f.items
    = [⟨0, true, false, 1, 0⟩, ⟨1, true, false, 3, 2⟩, ⟨2, false, false, 5, 0⟩] := by decide +kernel

/-- **the id reported by `add_import_func` designates the added import — in the encoded module, after any later history** that
    neither deletes it nor replaces it by a built function (and does not encode). -/
theorem c06_added_import_designates (s0 : St) (h0 : StInv s0) (uid : Nat) (ops : List Op)
    (hs : ∀ o ∈ ops, o ≠ .encode ∧ o ≠ .deleteFunc s0.f.items.length ∧ ∀ u c, o ≠ .replaceImport s0.imports.length u c) :
    let n := (s0.space .F).items.length
    let s := (run (step s0 (.addImportFunc uid)).1 ops).1
    reportedId (step s0 (.addImportFunc uid)).2 = some n
    ∧ ((∃ s' F G M res st, encode s = (s', Ret.encoded F G M res st)
        ∧ (∀ r' ∈ res ++ st.toList, ∃ r ∈ allRefs s, r'.site = r.site ∧ r'.sp = r.sp
            ∧ (∃ u, PointsTo s r u ∧ designated F G M r' = some u)
            ∧ (r.sp = .F → r.idx = n → designated F G M r' = some uid)))
      ∨ (∃ s' why, encode s = (s', Ret.panic why) ∧ ∃ r ∈ allRefs s, Dangling s r)) := by
  refine added_id_designates s0 h0 (.addImportFunc uid) .F uid rfl ops (fun x hx o ho => ?_)
  obtain ⟨a, b, c⟩ := hs o ho
  -- `addImportFunc` is a straight-line definition: unfolded, the vector after it is `s0.f.items` with one item appended
  have hx : (s0.f.items ++ [mkItem s0.f.items.length true uid s0.imports.length])[s0.f.items.length]? = some x := hx
  -- so `x` is that item: imported (no conversion can address it), carrying the import entry `s0.imports.length`
  cases hx.symm.trans List.getElem?_concat_length
  exact sparesF_of_ne a b (.inl rfl) (.inr c)

/-- **an id keeps designating its function through every operation that does not address it** (`SparesF`: deleting it, converting
    it, replacing the import it carries), for every history: the frame the end-to-end statements of C10, C11 and C12 rest on -/
theorem c06_ids_are_stable (s0 : St) (h0 : StInv s0) (j : Nat) (x : Item) (hx : s0.f.items[j]? = some x)
    (ops : List Op) (hs : SparedBy j x ops) :
    let s := (run s0 ops).1
    (∃ s' F G M res st, encode s = (s', Ret.encoded F G M res st)
        ∧ (∀ r' ∈ res ++ st.toList, ∃ r ∈ allRefs s, r'.site = r.site ∧ r'.sp = r.sp
            ∧ (∃ u, PointsTo s r u ∧ designated F G M r' = some u)
            ∧ (r.sp = .F → r.idx = j → designated F G M r' = some x.uid)))
    ∨ (∃ s' why, encode s = (s', Ret.panic why) ∧ ∃ r ∈ allRefs s, Dangling s r) :=
  encode_designates s0 h0 .F j x hx ops hs

/-- **the model was written against these uses of the function map** (`section:map:how`, in source order): resolution of
    special modes, the start function (stored back), table initialisers, global initialisers (`ref.func`), function exports,
    element function lists and element expressions / offsets, the code loop (operators and every injected list), data offsets,
    the function-keyed names. A use that appears, disappears or moves to another section of the encoder makes this fail: the
    clauses of `fixAll` (in place / on the fly / raw) must then be reviewed. The helpers that take the maps are listed too. -/
theorem c06_function_map_uses_reviewed :
    Orca.Gen.mapUsesFunc = ["resolve-special:func:pass", "start:func:get", "tables:func:pass", "globals:func:pass", "exports:func:get", "elements:func:get", "elements:func:pass", "elements:func:pass", "code:func:pass", "code:func:pass", "code:func:pass", "code:func:pass", "code:func:use", "code:func:use", "data:func:pass", "names:func:get"]
    ∧ Orca.Gen.mapHelpers = ["fix_op_id_mapping:func+global+memory", "remap_const_expr:func+global+memory",
        "resolve_special_instrumentation:func+global+memory", "update_ids_and_encode:func+global+memory"] := ⟨rfl, rfl⟩

end Orca.Edit

/-- **The tie to the source (regenerated on every run).** The control-and-call skeletons of the functions this property rests on:
    the re-indexing pass (`reorganise_generic`, `order_imports_generic`, `get_mapping_generic`, `recalculate_ids`) is what M1 was transcribed from. A step moved, an early exit, guard, call or assignment added or removed breaks this obligation; renaming, comments and
    formatting do not. -/
theorem c06_reindexing_code_reviewed :
    Orca.Gen.ApiOutline.reorganise_generic = Orca.ApiOutlineSpec.reorganise_generic
    ∧ Orca.Gen.ApiOutline.order_imports_generic = Orca.ApiOutlineSpec.order_imports_generic
    ∧ Orca.Gen.ApiOutline.get_mapping_generic = Orca.ApiOutlineSpec.get_mapping_generic
    ∧ Orca.Gen.ApiOutline.recalculate_ids = Orca.ApiOutlineSpec.recalculate_ids :=
  ⟨rfl, rfl, rfl, rfl⟩
