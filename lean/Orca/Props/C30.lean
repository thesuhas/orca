import Orca.Gen.ConstExpr
import Orca.Gen.ApiOutline
import Orca.Model.ApiOutlineSpec
import Orca.Lemmas.Helpers
import Orca.Lemmas.Ops
import Orca.Lemmas.Redirect
/-!
# C30 — module-level additions appear exactly as requested

* constants: `Orca.Gen.ConstExpr` is regenerated from `InitExpr::to_wasmencoder_type` / `InitExpr::eval` on every run;
  every `InitInstr` variant is encoded as the instruction it denotes (committed dictionary `specInstr`) and every payload
  conversion preserves the bit pattern (`f32` / `f64` through `to_bits`, `v128` through `u128 as i128` and little-endian
  bytes);
* ids: the id reported by `add_global`, `add_imported_global`, `add_local_memory`, `add_import_memory`, `add_data` is
  the position the item is stored at (M2), which `encode` maps to the item's index (C07 / C08);
* `mod_global_init_expr` replaces the initialiser of exactly that global.
What the model carries through unchanged (types, limits, data bytes, export names) is compared per case by the `adds`
family on the decoded output.
-/
namespace Orca.C30
open Orca.Gen Orca.Helpers

/-- the WebAssembly constant instruction each `InitInstr` variant denotes (reviewed by hand) -/
def specInstr : InitK → String
  | .Value_I32 => "I32Const" | .Value_I64 => "I64Const" | .Value_F32 => "F32Const" | .Value_F64 => "F64Const"
  | .Value_V128 => "V128Const" | .Global => "GlobalGet" | .RefNull => "RefNull" | .RefFunc => "RefFunc"
  | .StructNew => "StructNew" | .ArrayNew => "ArrayNew" | .StructNewDefault => "StructNewDefault"
  | .ArrayNewDefault => "ArrayNewDefault" | .RefArrayFixed => "ArrayNewFixed" | .RefArrayData => "ArrayNewData"
  | .RefArrayElem => "ArrayNewElem" | .RefI31 => "RefI31"

/-- the payload conversion each constant may go through when encoded -/
def specConv : InitK → CConv
  | .Value_F32 => .ieee32 | .Value_F64 => .ieee64 | .Value_V128 => .asI128 | _ => .same

/-- **instruction and conversion** of every variant are the specified ones -/
theorem c30_constexpr_table : ∀ k : InitK, encTable k = (specInstr k, specConv k) := by
  intro k; cases k <;> rfl

/-- little-endian bytes ↔ number -/
def ofLe : List Nat → Nat
  | [] => 0
  | b :: bs => b + 256 * ofLe bs
def toLe : Nat → Nat → List Nat
  | 0, _ => []
  | k + 1, n => n % 256 :: toLe k (n / 256)

theorem toLe_ofLe (bs : List Nat) (h : ∀ b ∈ bs, b < 256) : toLe bs.length (ofLe bs) = bs := by
  induction bs with
  | nil => rfl
  | cons b bs ih =>
    have hb : b < 256 := h b (by simp)
    have ih' := ih (fun x hx => h x (by simp [hx]))
    simp only [List.length_cons, toLe, ofLe]
    have h1 : (b + 256 * ofLe bs) % 256 = b := by omega
    have h2 : (b + 256 * ofLe bs) / 256 = ofLe bs := by omega
    rw [h1, h2, ih']

theorem ofLe_lt (bs : List Nat) (h : ∀ b ∈ bs, b < 256) : ofLe bs < 256 ^ bs.length := by
  induction bs with
  | nil => simp [ofLe]
  | cons b bs ih =>
    have hb : b < 256 := h b (by simp)
    have ih' := ih (fun x hx => h x (by simp [hx]))
    simp only [ofLe, List.length_cons, Nat.pow_succ]
    omega

/-- The sixteen bytes of a `v128` constant read little-endian into a `u128` (`v128_to_u128`), reinterpreted
    `as i128` (`to_wasmencoder_type`) and written back little-endian (wasm-encoder) are the sixteen bytes -/
theorem c30_v128_exact (bs : List Nat) (hl : bs.length = 16) (h : ∀ b ∈ bs, b < 256) :
    toLe 16 (bitsOf 128 (toSigned 128 (ofLe bs))) = bs := by
  have hlt : ofLe bs < 2 ^ 128 := by
    have := ofLe_lt bs h
    rw [hl] at this
    have e : (256 : Nat) ^ 16 = 2 ^ 128 := by decide
    omega
  rw [bitsOf_toSigned 128 _ (by decide) hlt, ← hl]
  exact toLe_ofLe bs h

/-- The conversions used for `f32` / `f64` constants are plain moves of the bit pattern (`f32::to_bits`,
    checked in the wasm-encoder source by the translator); in the model a float *is* its pattern, NaN payloads included -/
theorem c30_float_bits (n : Nat) : fieldBits .ieee32 .f32 (fieldVal .ieee32 .f32 n) = n ∧ fieldBits .ieee64 .f64 (fieldVal .ieee64 .f64 n) = n :=
  ⟨rfl, rfl⟩

open Orca.Edit in
/-- What the additions report is the position at which the item is stored -/
theorem c30_reported_ids (s : St) (uid : Nat) (sites : List Ref) (mem : Ref) :
    (addGlobal s uid sites).2 = Ret.id s.g.items.length
    ∧ (addImportedGlobal s uid).2 = Ret.id2 s.g.items.length s.imports.length
    ∧ (addLocalMem s uid).2 = Ret.id s.m.items.length
    ∧ (addImportMem s uid).2 = Ret.id2 s.m.items.length s.imports.length
    ∧ (step s (.addData mem sites)).2 = Ret.id s.numData := by
  exact ⟨rfl, rfl, rfl, rfl, rfl⟩

open Orca.Edit in
theorem find_map_keypres (f : Nat × List Ref → Nat × List Ref) (hf : ∀ p, (f p).1 = p.1) (u : Nat) :
    ∀ l : List (Nat × List Ref), (l.map f).find? (fun p => p.1 == u) = (l.find? (fun p => p.1 == u)).map f :=
  fun l => by simp only [List.find?_map, Function.comp_def, hf]

open Orca.Edit in
theorem lookup_setAssoc (l : List (Nat × List Ref)) (k u : Nat) (v : List Ref) :
    lookup (setAssoc l k v) u = if u = k then v else lookup l u := by
  unfold setAssoc lookup
  by_cases hany : l.any (fun p => p.1 == k) = true
  · rw [if_pos hany, find_map_keypres _ (fun p => by split <;> simp_all) u l]
    cases hfnd : l.find? (fun p => p.1 == u) with
    | none =>
      by_cases huk : u = k
      · subst huk; obtain ⟨x, hx, hxk⟩ := List.any_eq_true.mp hany
        exact absurd hxk (List.find?_eq_none.mp hfnd x hx)
      · simp [huk]
    | some q =>
      have hq : q.1 = u := by simpa using List.find?_some hfnd
      by_cases huk : u = k <;> simp [hq, huk]
  · have hnone : l.find? (fun p => p.1 == k) = none :=
      List.find?_eq_none.mpr fun x hx hk => hany (List.any_eq_true.mpr ⟨x, hx, hk⟩)
    rw [if_neg hany, List.find?_append]
    by_cases huk : u = k
    · subst huk; simp [hnone]
    · cases hf : l.find? (fun p => p.1 == u) <;> simp [huk, Ne.symm huk]

open Orca.Edit in
/-- **replacing an initialiser** touches the initialiser of that global only: index spaces, imports, exports, code,
    data, every other global's initialiser are as before -/
theorem c30_mod_init_only_that (s : St) (id : Nat) (sites : List Ref) (it : Orca.Reindex.Item)
    (hit : s.g.items[id]? = some it) (hloc : it.imp = false) :
    ∃ s', (modGlobalInit s id sites).1 = s' ∧
      s'.f = s.f ∧ s'.g = s.g ∧ s'.m = s.m ∧ s'.imports = s.imports ∧ s'.exports = s.exports ∧ s'.code = s.code
      ∧ s'.datas = s.datas ∧ s'.elems = s.elems ∧ s'.start = s.start
      ∧ lookup s'.ginit it.uid = sites
      ∧ (∀ u, u ≠ it.uid → lookup s'.ginit u = lookup s.ginit u) := by
  refine ⟨{ s with ginit := setAssoc s.ginit it.uid sites }, by simp [modGlobalInit, hit, hloc], rfl, rfl, rfl, rfl, rfl, rfl, rfl, rfl, rfl, ?_, ?_⟩
  · simp [lookup_setAssoc]
  · intro u hu; simp [lookup_setAssoc, hu]

open Orca.Edit in
/-- **the returned ids designate the added items — in the encoded module, after any later history.** Take any state reached from a
    parsed module, add a global or a memory (`add_global`, the iterators' `add_global`, `add_imported_global`, `add_local_memory`,
    `add_import_memory`), continue with any history that does not delete the added item (and does not encode), then encode.
    The addition reported the position `n`; either the encoder fails loudly because some stored reference designates a deleted
    entity, or every emitted reference of that index space whose stored id is `n` designates the added item `uid`, and every
    reference at all designates the live entity its id designated. -/
theorem c30_returned_ids_designate (s0 : St) (h0 : StInv s0) (op : Edit.Op) (sp : Sp) (uid : Nat) (hadd : addedBy op = some (sp, uid))
    (hsp : sp ≠ .F) (ops : List Edit.Op)
    (hs : ∀ o ∈ ops, o ≠ .encode ∧ o ≠ .deleteGlobal (s0.space sp).items.length ∧ o ≠ .deleteMem (s0.space sp).items.length) :
    let n := (s0.space sp).items.length
    let s := (run (step s0 op).1 ops).1
    reportedId (step s0 op).2 = some n
    ∧ ((∃ s' F G M res st, encode s = (s', Ret.encoded F G M res st)
        ∧ (∀ r' ∈ res ++ st.toList, ∃ r ∈ allRefs s, r'.site = r.site ∧ r'.sp = r.sp
            ∧ (∃ u, PointsTo s r u ∧ designated F G M r' = some u)
            ∧ (r.sp = sp → r.idx = n → designated F G M r' = some uid)))
      ∨ (∃ s' why, encode s = (s', Ret.panic why) ∧ ∃ r ∈ allRefs s, Dangling s r)) := by
  refine added_id_designates s0 h0 op sp uid hadd ops ?_
  intro x _ o ho
  obtain ⟨a, b, c⟩ := hs o ho
  cases sp with
  | F => exact absurd rfl hsp
  | G => exact ⟨fun id h e => b (by rw [h, e]), a⟩
  | M => exact ⟨fun id h e => c (by rw [h, e]), a⟩

open Orca.Edit in
/-- non-vacuity: a global is added behind a deleted one, an imported global is added afterwards (the vector is re-indexed at encode);
    the initialiser site that names the reported id 2 designates the added global 8 -/
example :
    let s0 : St := { g := { items := [⟨0, false, false, 5, 0⟩, ⟨1, false, false, 6, 0⟩] }, ginit := [(5, []), (6, [])] }
    let s1 := (run s0 [.deleteGlobal 0, .addGlobal 8 [], .addImportedGlobal 9, .addGlobal 10 [⟨300, Sp.G, 2⟩]]).1
    (match (encode s1).2 with
     | Ret.encoded _ G _ res _ => (G, res.map (fun r => (r.site, G[r.idx]?)))
     | _ => ([], [])) = ([9, 6, 8, 10], [(300, some 8)]) := by decide +kernel

/-! non-vacuity (decided): the all-ones vector and a vector with the sign bit set survive `as i128` -/
example : toLe 16 (bitsOf 128 (toSigned 128 (ofLe (List.replicate 16 255)))) = List.replicate 16 255 := by decide +kernel
example : toSigned 128 (ofLe (List.replicate 16 255)) = -1 := by decide +kernel

end Orca.C30

/-- **The tie to the source (regenerated on every run).** The control-and-call skeletons of the functions this property rests on:
    the module-level additions are what M2 / M13 were transcribed from. A step moved, an early exit, guard, call or assignment added or removed breaks this obligation; renaming, comments and
    formatting do not. -/
theorem c30_addition_code_reviewed :
    Orca.Gen.ApiOutline.add_global_with_tag = Orca.ApiOutlineSpec.add_global_with_tag
    ∧ Orca.Gen.ApiOutline.add_data = Orca.ApiOutlineSpec.add_data
    ∧ Orca.Gen.ApiOutline.add_local_memory_with_tag = Orca.ApiOutlineSpec.add_local_memory_with_tag
    ∧ Orca.Gen.ApiOutline.add_import_memory_with_tag = Orca.ApiOutlineSpec.add_import_memory_with_tag
    ∧ Orca.Gen.ApiOutline.add_import_func_with_tag = Orca.ApiOutlineSpec.add_import_func_with_tag :=
  ⟨rfl, rfl, rfl, rfl, rfl⟩
