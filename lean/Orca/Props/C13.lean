import Orca.Lemmas.Types
import Orca.Gen.ApiOutline
import Orca.Model.ApiOutlineSpec
/-!
# C13 — added types are exact and deduplicated

Model M5 (`Orca.Types`): `types`, the dedup map, the recursion groups, `ModuleTypes::new`, `add_type` (all six
`add_*_type` entry points build a `Types` value and call it) and the emission of the type section by groups.
`τ` is the content of a type with the tag left out (the key equality of `types_map`).
-/
namespace Orca.Types
variable {τ : Type} [DecidableEq τ]

/-- **exact, deduplicated, frame** for one call, from any well-formed state -/
theorem c13_add_type (s : TState τ) (t : τ) (h : WF s) :
    let r := addType s t
    -- the encoded section holds exactly the requested type at the returned index
    (encoded r.1)[r.2]? = some (some t)
    -- adding the identical type again returns the same index and changes nothing
    ∧ addType r.1 t = (r.1, r.2)
    -- no existing type changes its index or content; the section only grows at its end
    ∧ (∃ ext, encoded r.1 = encoded s ++ ext)
    ∧ WF r.1 := by
  obtain ⟨hat, hwf, _, ⟨ext, hext, _⟩, hidem⟩ := addType_spec s t h
  refine ⟨?_, hidem, ⟨ext, hext⟩, hwf⟩
  rw [encoded_eq _ hwf, List.getElem?_map, hat]; rfl

/-- for any sequence of calls: every returned index still holds its requested type at the end -/
theorem c13_add_all (ts : List τ) : ∀ (s : TState τ), WF s →
    let r := addAll s ts
    WF r.1 ∧ r.2.length = ts.length
    ∧ (∀ k (hk : k < ts.length) (hk2 : k < r.2.length), (encoded r.1)[r.2[k]]? = some (some ts[k]))
    ∧ (∃ ext, encoded r.1 = encoded s ++ ext) := by
  induction ts with
  | nil => intro s h; exact ⟨h, rfl, fun k hk => absurd hk (by simp), ⟨[], by simp [addAll]⟩⟩
  | cons t ts ih =>
    intro s h
    obtain ⟨hat, _, ⟨ext1, hext1⟩, hwf1⟩ := c13_add_type s t h
    obtain ⟨hwf2, hlen, hall, ⟨ext2, hext2⟩⟩ := ih (addType s t).1 hwf1
    simp only [addAll]
    refine ⟨hwf2, by simp [hlen], ?_, ⟨ext1 ++ ext2, by rw [hext2, hext1, List.append_assoc]⟩⟩
    intro k hk hk2
    cases k with
    | zero =>
      simp only [List.getElem_cons_zero]
      rw [hext2, List.getElem?_append_left (List.getElem?_eq_some_iff.mp hat).1]; exact hat
    | succ k =>
      simp only [List.getElem_cons_succ]
      exact hall k (by simpa using hk) (by simpa using hk2)

/-- the state produced by parsing is well-formed whatever the hash iteration order, provided the parsed groups list the
    type ids in order (which `parse` does: ids are assigned while the groups are read) -/
theorem c13_parsed_wf (groups : List (List Nat × Bool)) (types : List τ) (order : List Nat)
    (hall : ∀ i, i < types.length → i ∈ order) (hgroups : groups.flatMap (·.1) = List.range types.length) :
    WF (new groups types order) :=
  new_wf groups types order hall hgroups

/-! non-vacuity (decided): a module with the same type twice inside an explicit group and once outside; adding that type
    returns the smallest id, adding a new one appends it -/
example :
    let s : TState Nat := new [([0, 1], true), ([2], false)] [7, 7, 7] [2, 0, 1]
    (addAll s [7, 9, 9, 7]).2 = [0, 3, 3, 0] ∧ encoded (addAll s [7, 9, 9, 7]).1 = [some 7, some 7, some 7, some 9] := by decide +kernel

end Orca.Types

/-- **The tie to the source (regenerated on every run).** The control-and-call skeletons of the functions this property rests on:
    `add_type` and `add_func_type` are what M5's interning was transcribed from. A step moved, an early exit, guard, call or assignment added or removed breaks this obligation; renaming, comments and
    formatting do not. -/
theorem c13_interning_code_reviewed :
    Orca.Gen.ApiOutline.add_type = Orca.ApiOutlineSpec.add_type
    ∧ Orca.Gen.ApiOutline.add_func_type = Orca.ApiOutlineSpec.add_func_type :=
  ⟨rfl, rfl⟩

/-- **The tie to the source (regenerated on every run).** `impl Hash for Types` and `impl PartialEq for Types` (src/ir/module/module_types.rs), word for word: the key of the interning map M5 transcribes. Deduplication is exact only if equality looks at every component of a type and at nothing else. -/
theorem c13_type_key_code_reviewed :
    Orca.Gen.ApiOutline.types_hash = Orca.ApiOutlineSpec.types_hash
    ∧ Orca.Gen.ApiOutline.types_eq = Orca.ApiOutlineSpec.types_eq :=
  ⟨rfl, rfl⟩
