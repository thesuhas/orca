import Orca.Lemmas.IdemHist
import Orca.Lemmas.Preserve
import Orca.Lemmas.LowerIdem
import Orca.Lemmas.ApiPlan
import Orca.Gen.EncodeWrites
import Orca.Model.EncodeWritesSpec
/-!
# C05 — encoding again without edits gives the same bytes

The full statement is **false** of the current code and of the model (known finding F4): after an operation that
sets a `recalculate_ids` flag, the first encode reorganises the vectors and rewrites stored indices in place while
the stored ids and the flags stay as they were, so the second encode maps already-mapped indices again.
`c05_second_encode_counterexample` decides a concrete instance in the model; the same history is replayed on the
crate from `corpus/`. What is proved is the part of the statement that holds: histories that leave no re-indexing
pending (injections of any kind, initialiser changes, global additions through `add_global`, exports, data) — for states
(`c05_encode_idem_partial`) and for **every history** of such operations from a state satisfying the invariants
(`c05_encode_idem_after_quiet_history`; the invariants it needs are proved inductive in Lemmas/Preserve.lean and
Lemmas/IdemHist.lean). The other half of an encode that works in place — the lowering of special instrumentation — is proved
idempotent without restriction (`c05_lowering_leaves_nothing_special`, `c05_second_lowering_changes_nothing`, Lemmas/LowerIdem.lean).
-/
namespace Orca.Edit
open Orca.Reindex

/-- **partial** (`NoReindexPending`): the first encode rewrites nothing — it returns the state it was given — so the
    second encode computes exactly the same module -/
theorem c05_encode_idem_partial (s : St) (hn : NoReindexPending s)
    (hf : IdsFresh s.f.items) (hg : IdsFresh s.g.items) (hm : IdsFresh s.m.items)
    (hr : ∀ r ∈ allRefs s, InRange s r) (hk1 : KeysNodup s.ginit) (hk2 : KeysNodup s.code) :
    (encode s).1 = s ∧ encode (encode s).1 = encode s :=
  have h := encode_fixpoint s hn hf hg hm hr hk1 hk2
  ⟨h, by rw [h]⟩

/-- **partial, for histories.** `s0` is any state satisfying `StInv` and `IdemInv` (no flag set, every stored reference in
    range, one initialiser per global and one code entry per function); `ops` is any sequence of injections, initialiser
    changes, `add_global`s, export additions / deletions and data additions whose references make sense when they are
    issued (`QuietHist`). Then the first encode changes nothing and the second encode gives the same module. -/
theorem c05_encode_idem_after_quiet_history (s0 : St) (h0 : StInv s0) (hi : IdemInv s0) (ops : List Op) (hq : QuietHist s0 ops) :
    let s := (run s0 ops).1
    (encode s).1 = s ∧ encode (encode s).1 = encode s := by
  -- both invariants are carried along the history; a quiet operation is not `encode`
  obtain ⟨a, b⟩ := run_induct (Q := fun s => StInv s ∧ IdemInv s) (H := QuietHist)
    (fun s op _ h hq => ⟨⟨stInv_step s op (fun e => by subst e; exact hq.1) h.1, idemInv_step s op hq.1 h.2⟩, hq.2⟩) ops s0 ⟨h0, hi⟩ hq
  exact c05_encode_idem_partial _ b.quiet a.f.fresh a.g.fresh a.m.fresh b.inRange b.kg b.kc

/-- the full statement fails: one local function that calls itself, one `add_import_func`; the first encode emits the
    call with index 1 (the function itself, uid 10), the second with index 0 (the import, uid 11) -/
theorem c05_second_encode_counterexample :
    let s0 : St := { f := { items := [⟨0, false, false, 10, 0⟩] }, code := [(10, [⟨100, Sp.F, 0⟩])] }
    let s1 := (addImportFunc s0 11).1
    let e1 := encode s1
    let e2 := encode e1.1
    (match e1.2, e2.2 with
     | Ret.encoded F1 _ _ r1 _, Ret.encoded F2 _ _ r2 _ => (r1.map (fun r => F1[r.idx]?), r2.map (fun r => F2[r.idx]?))
     | _, _ => ([], [])) = ([some 10], [some 11]) := by decide +kernel

/-- non-vacuity of the partial theorem's premises: a module with an import, two locals and references -/
example : let s : St := { f := { items := [⟨0, true, false, 1, 0⟩, ⟨1, false, false, 2, 0⟩], numImp := 1 },
                          imports := [⟨some Sp.F, false, 1⟩], code := [(2, [⟨100, Sp.F, 0⟩, ⟨101, Sp.F, 1⟩])] }
    (encode s).1.code = s.code ∧ (encode (encode s).1).2 matches Ret.encoded .. := by decide +kernel

end Orca.Edit

namespace Orca.Lower

/-- **The lowering resolves in place, completely.** After `resolve_special_instrumentation` no instruction of the function carries a
    semantic-after, block-entry, block-exit or block-alternate list and the function-level lists are empty — for every body (no nesting
    assumption) and every plan; block alternates on block-structured instructions only, which is all the API accepts. Proved by showing
    that one iteration of the resolver's loop changes the body at the current index only and, on whichever path (removal, block
    alternate, the three stages of `planSpecial`), leaves that instruction without special lists. -/
theorem c05_lowering_leaves_nothing_special (f : Func) (hsp : f.hasSpecial = true) (hsc : ∀ x ∈ f.body, AltScope x) :
    (∀ y ∈ (resolveSpecial f).body, Cleared y) ∧ (resolveSpecial f).entry = [] ∧ (resolveSpecial f).exit = []
    ∧ (resolveSpecial f).body.length = f.body.length :=
  resolveSpecial_clears f hsp hsc

/-- **encoding again lowers nothing again**: the function the first encode leaves behind is encoded to the same code, with no
    further local — every body, every plan. -/
theorem c05_second_lowering_changes_nothing (f : Func) (hsp : f.hasSpecial = true) (hsc : ∀ x ∈ f.body, AltScope x) :
    lower (resolveSpecial f) = lower f :=
  lower_resolved_again f hsp hsc

/-- the same for every function the injection API can build -/
theorem c05_second_lowering_changes_nothing_api (f0 f : Func) (ops : List ApiOp) (h0 : ∀ x ∈ f0.body, Pristine x)
    (ha : applyAll f0 ops = some f) (hsp : f.hasSpecial = true) :
    lower (resolveSpecial f) = lower f :=
  lower_resolved_again f hsp (fun x hx => (applyAll_inScope ops f0 f (fun y hy => (h0 y hy).inScope) ha x hx).altOnly)

/-! non-vacuity (decided): function exit code, a block with an exit probe, a flagged `br_if`; the second lowering of the resolved
    function gives the same 17 tokens and the same count of added locals, and the resolved function carries no special list -/
private def mkI05 (t : Tok) (k : Kind) : Instr := { tok := t, kind := k }
set_option maxRecDepth 20000 in
example :
    let f : Func := { body := [{ mkI05 "block" .block with blockExit := ["X"] }, { mkI05 "br_if 0" (.brIf 0) with semAfter := ["S"] },
                              mkI05 "end" .end_, mkI05 "end" .end_], hasSpecial := true, exit := ["EX"], nlocals := 2 }
    lower (resolveSpecial f) = lower f ∧ (lower f).2 = 1 ∧ (lower f).1.length = 17
    ∧ (resolveSpecial f).body.all (fun i => i.semAfter.isEmpty && i.blockExit.isEmpty) = true := by
  decide +kernel

end Orca.Lower

/-- **The tie to the source (regenerated on every run).** Every place in `encode_internal` that can change the module it encodes
    (assignments through a field path, mutable borrows, mutating calls), in source order. What the first encoding leaves behind is what
    these writes do; a new write (for instance a list purged or a flag reset during encoding), a removed one or a reordering breaks
    this obligation. -/
theorem c05_encoder_writes_reviewed :
    Orca.Gen.EncodeWrites.encode_internal = Orca.EncodeWritesSpec.encode_internal := rfl

/-- decided on the regenerated list: the only field of the module the encoder assigns directly is `start`; every other change goes through
    one of the reviewed mutable borrows / in-place rewrites, each of which is in the list of writes that reach the module -/
theorem c05_encoder_assigns_only_start :
    (Orca.Gen.EncodeWrites.encode_internal.filter (fun w => w.1 == "assign")) = [("assign", "self.start =")]
    ∧ ∀ w ∈ Orca.EncodeWritesSpec.reachModule, w ∈ Orca.Gen.EncodeWrites.encode_internal := by
  decide +kernel
