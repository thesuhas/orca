import Orca.Lemmas.Names
import Orca.Gen.ApiOutline
import Orca.Model.ApiOutlineSpec
import Orca.Lemmas.Ops
/-!
# C29 — names stay attached to their entities

Model M13 (`Orca.Names`) on top of the index-space models M1 / M2: a local function's name lives on the function and
is emitted at the function's new index; an imported function's name lives on its import entry and is emitted with a
counter over the emitted function imports; the parsed names of locals and globals are kept with the id of their
function / global and re-keyed with the id mapping when the name section is written (after the repairs F24 and F33).
-/
namespace Orca.Names
open Orca.Edit Orca.Reindex

/-- **local functions.** With `locals` the uids of the emitted local functions in output order and `nimp` emitted
    function imports in front of them: the name section names index `nimp + k` with exactly the name stored on the
    `k`-th emitted local function — nothing else is named in that range. -/
theorem c29_local_function_names (s : NSt) (locals : List Nat) (i : Nat) (n : String)
    (hi : ((s.e.imports.zipIdx.filter (fun (p : ImpEntry × Nat) => p.1.sp == some Sp.F && !p.1.del)).length) ≤ i) :
    (i, n) ∈ emittedFnames s locals ↔
      ∃ k u, i = (s.e.imports.zipIdx.filter (fun (p : ImpEntry × Nat) => p.1.sp == some Sp.F && !p.1.del)).length + k
        ∧ locals[k]? = some u ∧ getName s.fname u = some n := by
  refine (mem_emittedFnames s locals i n).trans ⟨fun h => h.resolve_left ?_, .inr⟩
  -- an import name has an index below the number of imports
  rintro ⟨a, hk, _⟩
  exact absurd (getElem?_lt hk) (Nat.not_lt.mpr hi)

/-- **imported functions.** The name section names an index `i` below the number of emitted function imports with exactly the
    custom name stored on the `i`-th *emitted* function import entry (the live one at position `pos` of the import list) — the
    entity that has function index `i` in the encoded module (`c06_index_space_is_vector`); deleted import entries and imports of
    other kinds in front of it do not shift the name (the repaired F33). -/
theorem c29_import_function_names (s : NSt) (locals : List Nat) (i : Nat) (n : String)
    (hi : i < ((s.e.imports.zipIdx.filter (fun (p : ImpEntry × Nat) => p.1.sp == some Sp.F && !p.1.del)).length)) :
    (i, n) ∈ emittedFnames s locals ↔
      ∃ e pos, (s.e.imports.zipIdx.filter (fun (p : ImpEntry × Nat) => p.1.sp == some Sp.F && !p.1.del))[i]? = some (e, pos)
        ∧ getName s.impName pos = some n := by
  refine (mem_emittedFnames s locals i n).trans ⟨fun h => ?_, fun ⟨e, pos, h⟩ => .inl ⟨(e, pos), h⟩⟩
  rcases h with ⟨⟨e, pos⟩, h⟩ | ⟨k, u, rfl, _, _⟩
  · exact ⟨e, pos, h⟩
  · omega

/-- non-vacuity: a global import and a deleted function import in front; the name set on import position 2 is emitted at index 0 -/
example :
    let s : NSt := { e := { imports := [⟨some Sp.G, false, 1⟩, ⟨some Sp.F, true, 2⟩, ⟨some Sp.F, false, 3⟩] }, impName := [(2, "imp")] }
    emittedFnames s [] = [(0, "imp")] := by decide +kernel

/-- **naming call on a local function**: `set_fn_name(id, name)` with `id` designating a local function - whatever the id is,
    below or above the number of function imports - stores the name on the function that `id` designates and on no other; every
    other name is untouched -/
theorem c29_set_fn_name_local (s : NSt) (id : Nat) (name : String) (it : Item)
    (hit : s.e.f.items[id]? = some it) (hloc : it.imp = false) :
    ∃ s', setFnName s id name = some s' ∧ getName s'.fname it.uid = some name
      ∧ (∀ u, u ≠ it.uid → getName s'.fname u = getName s.fname u)
      ∧ s'.impName = s.impName ∧ s'.lnames = s.lnames ∧ s'.gnames = s.gnames ∧ s'.e = s.e := by
  exact ⟨{ s with fname := setName s.fname it.uid name }, by simp [setFnName, hit, hloc], getName_setName_self ..,
    fun u hu => getName_setName_ne _ _ hu, rfl, rfl, rfl, rfl⟩

/-- **naming call on an imported function** (parsed, added after parsing - with an id behind the local functions - or converted):
    the name goes to the import entry the function records, to no other import and to no local function -/
theorem c29_set_fn_name_import (s : NSt) (id : Nat) (name : String) (it : Item)
    (hit : s.e.f.items[id]? = some it) (himp : it.imp = true) :
    ∃ s', setFnName s id name = some s' ∧ getName s'.impName it.impId = some name
      ∧ (∀ k, k ≠ it.impId → getName s'.impName k = getName s.impName k)
      ∧ s'.fname = s.fname ∧ s'.lnames = s.lnames ∧ s'.gnames = s.gnames ∧ s'.e = s.e := by
  exact ⟨{ s with impName := setName s.impName it.impId name }, by simp [setFnName, hit, himp], getName_setName_self ..,
    fun k hk => getName_setName_ne _ _ hk, rfl, rfl, rfl, rfl⟩

/-- the history of finding F38, decided: one parsed import, two local functions, four imports added after parsing (ids 3..6, import
    entries 1..4); naming function 4 names import entry 2 - not the fifth function import, which the id-range rule picked -/
example :
    let e : Edit.St := { f := { items := [⟨0, true, false, 1, 0⟩, ⟨1, false, false, 9, 0⟩, ⟨2, false, false, 10, 0⟩, ⟨3, true, false, 11, 1⟩,
                                          ⟨4, true, false, 12, 2⟩, ⟨5, true, false, 13, 3⟩, ⟨6, true, false, 14, 4⟩] } }
    (setFnName { e := e } 4 "renamed1").map (·.impName) = some [(2, "renamed1")] := by decide +kernel

/-- **local names.** After `encode` re-indexed the functions (`s.e.f.items`), the name section carries a local name at
    `(p, l)` exactly when the input named local `l` of the function with id `fi` and the id map sends `fi` to `p` -/
theorem c29_local_names_emitted (s : NSt) (p l : Nat) (n : String) :
    ((p, l), n) ∈ emittedLnames s ↔ ∃ fi, ((fi, l), n) ∈ s.lnames ∧ mapping s.e.f.items fi = some p := by
  simp only [emittedLnames, mem_sortByKey, List.mem_filterMap, Option.map_eq_some_iff, Prod.mk.injEq]
  constructor
  · rintro ⟨⟨⟨fi, l'⟩, n'⟩, hmem, q, hq, ⟨hp, hl⟩, hn⟩
    subst hp; subst hl; subst hn
    exact ⟨fi, hmem, hq⟩
  · rintro ⟨fi, hmem, hq⟩
    exact ⟨((fi, l), n), hmem, p, hq, ⟨rfl, rfl⟩, rfl⟩

/-- the index the id map gives is the new index **of the same function**: with stored ids equal to positions before the
    re-indexing (`IdsFresh`), the map sends the id of a live function to the position of that very function and the id of
    a deleted function nowhere (its local names are dropped) -/
theorem c29_names_follow_entities (orig : Nat) (xs : List Item) (h : orig ≤ xs.length) (hf : IdsFresh xs) :
    ∃ ys, recalculate orig xs = some ys
      ∧ (∀ fi x, xs[fi]? = some x → x.del = false → ∃ p, mapping ys fi = some p ∧ ys[p]? = some x)
      ∧ (∀ fi x, xs[fi]? = some x → x.del = true → mapping ys fi = none) := by
  obtain ⟨ys, hrec, _, _, hlive, hdead, _⟩ := recalculate_spec orig xs h hf
  exact ⟨ys, hrec, hlive, hdead⟩

/-- `c29_local_names_emitted` for global names -/
theorem c29_global_names_emitted (s : NSt) (p : Nat) (n : String) :
    (p, n) ∈ emittedGnames s ↔ ∃ gi, (gi, n) ∈ s.gnames ∧ mapping s.e.g.items gi = some p := by
  simp only [emittedGnames, mem_sortByKey, List.mem_filterMap, Option.map_eq_some_iff, Prod.mk.injEq]
  constructor
  · rintro ⟨⟨gi, n'⟩, hmem, q, hq, hp, hn⟩
    subst hp; subst hn
    exact ⟨gi, hmem, hq⟩
  · rintro ⟨gi, hmem, hq⟩
    exact ⟨(gi, n), hmem, p, hq, rfl, rfl⟩

/-- the emitted maps are sorted by index, as the name section requires -/
theorem c29_emitted_sorted (s : NSt) :
    Sorted (fun (p : (Nat × Nat) × String) => p.1.1) (emittedLnames s) ∧ Sorted (fun (p : Nat × String) => p.1) (emittedGnames s) :=
  ⟨sorted_sortByKey _ _, sorted_sortByKey _ _⟩

/-- **a function built to replace an import is named after the import's field**: after `replace_import_in_module(ImportsID p)` on a live
    function import, the new local function `uid` carries the field name, every other function keeps its name, the import names and
    the local / global name maps are untouched, and the index spaces are M2's `replaceImport` (C10) -/
theorem c29_replacement_named_after_import (s : NSt) (impId uid : Nat) (field : String) (e : ImpEntry) (fid : Nat)
    (he : s.e.imports[impId]? = some e) (hk : e.sp = some Sp.F)
    (hfind : s.e.f.items.findIdx? (fun (it : Item) => !it.del && it.imp && it.impId == impId) = some fid) :
    let r := replaceImportNamed s impId uid field
    getName r.1.fname uid = some field
    ∧ (∀ u, u ≠ uid → getName r.1.fname u = getName s.fname u)
    ∧ r.1.impName = s.impName ∧ r.1.lnames = s.lnames ∧ r.1.gnames = s.gnames
    ∧ r.1.e = (replaceImport s.e impId uid []).1 ∧ r.2 = (replaceImport s.e impId uid []).2 := by
  simp only [replaceImportNamed, he, hk, hfind, beq_self_eq_true, Option.isSome_some, Bool.and_self, if_true]
  exact ⟨getName_setName_self .., fun u hu => getName_setName_ne _ _ hu, by simp⟩

end Orca.Names

/-- **The tie to the source (regenerated on every run).** The control-and-call skeletons of the functions this property rests on:
    `set_fn_name` is what M13's naming was transcribed from. A step moved, an early exit, guard, call or assignment added or removed breaks this obligation; renaming, comments and
    formatting do not. -/
theorem c29_naming_code_reviewed :
    Orca.Gen.ApiOutline.set_fn_name = Orca.ApiOutlineSpec.set_fn_name :=
  rfl
