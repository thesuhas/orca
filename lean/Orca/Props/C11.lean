import Orca.Lemmas.Ops
import Orca.Gen.ApiOutline
import Orca.Model.ApiOutlineSpec
import Orca.Lemmas.Redirect
/-!
# C11 — converting a local function to an import redirects all its uses
-/
namespace Orca.Edit
open Orca.Reindex

/-- after `convert_local_fn_to_import(id, …)`: the id designates a new imported entity whose import entry is appended
    to the import list; every other function keeps its id and identity -/
theorem c11_convert_redirects (s : St) (id uid : Nat) (x : Item) (hx : s.f.items[id]? = some x) (hloc : x.imp = false) :
    let r := localToImport s id uid
    r.2 = Ret.bool true
    ∧ r.1.f.items[id]? = some { id := id, imp := true, del := false, uid := uid, impId := s.imports.length }
    ∧ (∀ j, j ≠ id → r.1.f.items[j]? = s.f.items[j]?)
    ∧ r.1.imports = s.imports ++ [{ sp := some Sp.F, del := false, uid := uid }]
    ∧ r.1.f.items.length = s.f.items.length := by
  rw [localToImport_local hx hloc]
  exact ⟨rfl, List.getElem?_set_self (getElem?_lt hx), fun j hj => List.getElem?_set_ne (Ne.symm hj), rfl, List.length_set⟩

/-- at encode the converted functions are laid out in the order of their import entries, whatever the order
    of the conversions: the imported prefix of the re-indexed vector is sorted by import position -/
theorem c11_import_prefix_in_import_order (orig : Nat) (xs : List Item) (h : orig ≤ xs.length) :
    orderImports (reorganise orig xs)
      = sortImports (xs.filter keepImp) ++ ((xs.drop orig).filter keepLoc ++ (xs.take orig).filter keepLoc) :=
  closed_layout orig xs h

/-- regression for F5: convert function 1, then function 0; encode; both exports still designate their functions -/
example :
    let s0 : St := { f := { items := [⟨0, false, false, 10, 0⟩, ⟨1, false, false, 11, 0⟩] },
                     exports := [(⟨100, Sp.F, 0⟩, false), (⟨101, Sp.F, 1⟩, false)] }
    let s1 := (localToImport (localToImport s0 1 21).1 0 20).1
    (match (encode s1).2 with
     | Ret.encoded F _ _ res _ => (F, res.map (fun r => (r.site, F[r.idx]?)))
     | _ => ([], [])) = ([21, 20], [(100, some 20), (101, some 21)]) := by decide +kernel

/-- **End to end, for every earlier and later history.** Take any state reached from a parsed module (`StInv`), convert the local
    function `id` to an import `uid`, continue with any history that does not delete that function, does not replace the new
    import again (and does not encode), then encode. Either the encoder fails loudly because some stored reference designates a
    deleted entity, or: every emitted reference whose stored id was `id` designates the new import `uid` in the encoded
    module, and every reference at all designates the live entity its id designated. -/
theorem c11_uses_refer_to_new_import (s0 : St) (h0 : StInv s0) (id uid : Nat) (x : Item)
    (hx : s0.f.items[id]? = some x) (hloc : x.imp = false)
    (ops : List Op) (hs : ∀ op ∈ ops, op ≠ .encode ∧ op ≠ .deleteFunc id ∧ ∀ u c, op ≠ .replaceImport s0.imports.length u c) :
    let s := (run (localToImport s0 id uid).1 ops).1
    (∃ s' F G M res st, encode s = (s', Ret.encoded F G M res st)
        ∧ (∀ r' ∈ res ++ st.toList, ∃ r ∈ allRefs s, r'.site = r.site ∧ r'.sp = r.sp
            ∧ (∃ u, PointsTo s r u ∧ designated F G M r' = some u)
            ∧ (r.sp = .F → r.idx = id → designated F G M r' = some uid)))
    ∨ (∃ s' why, encode s = (s', Ret.panic why) ∧ ∃ r ∈ allRefs s, Dangling s r) := by
  have hspec := c11_convert_redirects s0 id uid x hx hloc
  have h1 : StInv (localToImport s0 id uid).1 := stInv_step s0 (.localToImport id uid) (by intro h; cases h) h0
  refine encode_designates _ h1 .F id { id := id, imp := true, del := false, uid := uid, impId := s0.imports.length } hspec.2.1 ops ?_
  intro op ho
  obtain ⟨a, b, c⟩ := hs op ho
  exact sparesF_of_ne a b (.inl rfl) (.inr c)

/-- **Every other function keeps its identity through the conversion and whatever follows.** -/
theorem c11_other_functions_keep_identity (s0 : St) (h0 : StInv s0) (id uid : Nat) (j : Nat) (y : Item)
    (hy : s0.f.items[j]? = some y) (hother : j ≠ id)
    (ops : List Op) (hs : SparedBy j y ops) :
    let s := (run s0 (.localToImport id uid :: ops)).1
    (∃ s' F G M res st, encode s = (s', Ret.encoded F G M res st)
        ∧ (∀ r' ∈ res ++ st.toList, ∃ r ∈ allRefs s, r'.site = r.site ∧ r'.sp = r.sp
            ∧ (∃ u, PointsTo s r u ∧ designated F G M r' = some u)
            ∧ (r.sp = .F → r.idx = j → designated F G M r' = some y.uid)))
    ∨ (∃ s' why, encode s = (s', Ret.panic why) ∧ ∃ r ∈ allRefs s, Dangling s r) := by
  exact encode_designates s0 h0 .F j y hy _ (List.forall_mem_cons.mpr ⟨.inl (Ne.symm hother), hs⟩)

end Orca.Edit

/-- **The tie to the source (regenerated on every run).** The control-and-call skeletons of the functions this property rests on:
    `convert_local_fn_to_import_with_tag` is what M2's conversion was transcribed from. A step moved, an early exit, guard, call or assignment added or removed breaks this obligation; renaming, comments and
    formatting do not. -/
theorem c11_conversion_code_reviewed :
    Orca.Gen.ApiOutline.convert_local_fn_to_import_with_tag = Orca.ApiOutlineSpec.convert_local_fn_to_import_with_tag :=
  rfl
