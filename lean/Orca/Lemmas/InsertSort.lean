import Orca.Model.Names
/-!
Insertion sort by a `Nat` key, once. `order_imports_generic` (M1: `insertSorted` / `sortImports`, key = position of the import
entry) and the name maps (M13: `insertByKey` / `sortByKey`) are the same function; the facts are proved for the generic one.
-/
namespace Orca.Names

theorem insertByKey_perm {α : Type} (key : α → Nat) (a : α) (l : List α) : (insertByKey key a l).Perm (a :: l) := by
  induction l with
  | nil => exact .refl _
  | cons y ys ih =>
    simp only [insertByKey]
    split
    · exact .refl _
    · exact (ih.cons y).trans (.swap a y ys)

theorem sortByKey_perm {α : Type} (key : α → Nat) (l : List α) : (sortByKey key l).Perm l := by
  suffices h : ∀ acc : List α, (l.foldl (fun acc x => insertByKey key x acc) acc).Perm (acc ++ l) from h []
  induction l with
  | nil => intro acc; simp
  | cons x l ih =>
    intro acc
    exact (ih _).trans (((insertByKey_perm key x acc).append_right l).trans (by simpa using List.perm_middle.symm))

theorem insertByKey_sorted {α : Type} (key : α → Nat) (a : α) (l : List α) (h : l.Pairwise (fun x y => key x ≤ key y)) :
    (insertByKey key a l).Pairwise (fun x y => key x ≤ key y) := by
  induction l with
  | nil => simp [insertByKey]
  | cons y ys ih =>
    have hy := List.pairwise_cons.mp h
    simp only [insertByKey]
    split
    · refine List.pairwise_cons.mpr ⟨fun z hz => ?_, h⟩
      rcases List.mem_cons.mp hz with rfl | hz
      · omega
      · have := hy.1 z hz; omega
    · refine List.pairwise_cons.mpr ⟨fun z hz => ?_, ih hy.2⟩
      rcases List.mem_cons.mp ((insertByKey_perm key a ys).subset hz) with rfl | hz
      · omega
      · exact hy.1 z hz

theorem sortByKey_sorted {α : Type} (key : α → Nat) (l : List α) : (sortByKey key l).Pairwise (fun x y => key x ≤ key y) := by
  suffices h : ∀ acc : List α, acc.Pairwise (fun x y => key x ≤ key y) →
      (l.foldl (fun acc x => insertByKey key x acc) acc).Pairwise (fun x y => key x ≤ key y) from h [] .nil
  induction l with
  | nil => intro acc h; exact h
  | cons x l ih => intro acc h; exact ih _ (insertByKey_sorted key x acc h)

end Orca.Names

namespace Orca.Reindex

theorem insertSorted_eq (x : Item) (l : List Item) : insertSorted x l = Names.insertByKey (·.impId) x l := by
  induction l with
  | nil => rfl
  | cons y ys ih =>
    simp only [insertSorted, Names.insertByKey, ih]
    by_cases h : y.impId ≤ x.impId
    · rw [if_pos h, if_neg (by omega)]
    · rw [if_neg h, if_pos (by omega)]

theorem sortImports_eq (l : List Item) : sortImports l = Names.sortByKey (·.impId) l := by
  unfold sortImports Names.sortByKey
  congr 1; funext acc x; exact insertSorted_eq x acc

theorem sortImports_perm (l : List Item) : (sortImports l).Perm l :=
  sortImports_eq l ▸ Names.sortByKey_perm _ l

theorem _root_.Orca.Edit.sortImports_sorted (l : List Item) : (sortImports l).Pairwise (fun a b => a.impId ≤ b.impId) :=
  sortImports_eq l ▸ Names.sortByKey_sorted _ l

end Orca.Reindex
