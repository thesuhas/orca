import Orca.Model.Comp
/-!
Run-length lists (`expandRuns`, `addToSections`) and the record / replay of a section order (`store`, `replay`): the part of M10
that does not depend on the component tree. `Orca.Locals.expand` / `addLocal` (M6) are instances.
-/
namespace Orca.Comp
variable {κ α : Type} [DecidableEq κ]

omit [DecidableEq κ] in
theorem expandRuns_append (a b : List (Nat × κ)) : expandRuns (a ++ b) = expandRuns a ++ expandRuns b := by
  induction a with
  | nil => rfl
  | cons x xs ih => simp [expandRuns, ih]

theorem replay_shift (st : κ → List α) (secs : List (Nat × κ)) (cur : κ → Nat) :
    replay st secs cur = replay (fun k => (st k).drop (cur k)) secs (fun _ => 0) := by
  induction secs generalizing st cur with
  | nil => rfl
  | cons s rest ih =>
    simp only [replay, List.drop_zero, Nat.zero_add]
    rw [ih st, ih (fun k => (st k).drop (cur k))]
    congr 2; funext k'
    by_cases hk : k' = s.2 <;> simp [hk, Nat.add_comm]

theorem store_run {run : List (κ × α)} {k : κ} (h : ∀ p ∈ run, p.1 = k) (k' : κ) :
    store run k' = if k' = k then run.map (·.2) else [] := by
  unfold store
  split
  · rw [List.filter_eq_self.mpr (by simpa [*] using h)]
  · rw [List.filter_eq_nil_iff.mpr (fun p hp => by simp [h p hp, Ne.symm ‹_›])]; rfl

theorem store_append (a b : List (κ × α)) (k : κ) : store (a ++ b) k = store a k ++ store b k := by
  simp [store]

theorem replay_spec (secs : List (Nat × κ)) (items : List (κ × α)) (h : expandRuns secs = items.map (·.1)) :
    replay (store items) secs (fun _ => 0) = items := by
  induction secs generalizing items with
  | nil => simpa [expandRuns, replay] using h.symm
  | cons s rest ih =>
    obtain ⟨n, k⟩ := s
    -- the items are a run of `n` of kind `k`, then what `rest` describes
    obtain ⟨run, items', rfl, hrun, hrest⟩ := List.map_eq_append_iff.mp h.symm
    obtain ⟨hlen, hk⟩ := List.eq_replicate_iff.mp hrun
    rw [List.length_map] at hlen
    replace hk : ∀ p ∈ run, p.1 = k := fun p hp => hk _ (List.mem_map_of_mem hp)
    -- behind the cursors left by the run, the per-kind vectors are those of `items'`
    have hst : (fun k' => (store (run ++ items') k').drop (if k' = k then 0 + n else 0)) = store items' := by
      funext k'; rw [store_append, store_run hk]
      split
      · exact List.drop_left' (by simp [hlen])
      · rfl
    rw [replay, replay_shift, hst, ih _ hrest.symm, store_append, store_run hk, if_pos rfl, List.drop_zero,
      List.take_left' (by simp [hlen]), List.map_map]
    congr 1
    exact (List.map_congr_left fun p hp => show (k, p.2) = id p from Prod.ext (hk p hp).symm rfl).trans (List.map_id _)

theorem expandRuns_addToSections (secs : List (Nat × κ)) (k : κ) (n : Nat) :
    expandRuns (addToSections secs k n) = expandRuns secs ++ List.replicate n k := by
  unfold addToSections
  cases hl : secs.getLast? with
  | none => simp [List.getLast?_eq_none_iff.mp hl, expandRuns]
  | some x =>
    obtain ⟨ys, rfl⟩ := List.getLast?_eq_some_iff.mp hl
    by_cases hk : x.2 = k
    · subst hk; simp [expandRuns_append, expandRuns, ← List.replicate_append_replicate]
    · simp [hk, expandRuns_append, expandRuns]

end Orca.Comp
