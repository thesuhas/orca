import Orca.Lemmas.Lower
/-!
The resolver's loop (`rstep`, M3) taken apart. One iteration is the function-level part `rpre`, then the core `rcore` (`rstep_eq`). By
situation the core is a structural part `pass` followed by `planSpecial`, by the start of a removal or by the marking of the instruction
(the six `rcore_*` equations). Every piece that writes is a state equation about variables: `A ++ c :: B` becomes `A ++ c' :: B` with
`Chg c c' _ _`, and the tables become what the equation says (`flushE_eq`, `endE_eq`, `stage*_eq`, `rpre1_eq`, `rpre2_eq`).
-/
namespace Orca.Lower

/-- what the lowering does to an instruction inside a removed construct -/
def mark (i : Instr) : Instr :=
  { i with alt := some [], semAfter := [], blockEntry := [], blockExit := [], blockAlt := none }

def markAt (b : List Instr) (idx : Nat) : List Instr := discardSpecial (setEmptyAlt b idx) idx

theorem markAt_mid (A B : List Instr) (x : Instr) : markAt (A ++ x :: B) A.length = A ++ mark x :: B := by
  unfold markAt discardSpecial setEmptyAlt
  rw [modifyAt_mid, modifyAt_mid]
  rfl

/-- the alternate of an opener that carries a block alternate: an empty replacement empties it, a non-empty one is appended to what an
    instruction-level alternate had put there -/
def altOf (i : Instr) (alt : List Tok) : List Tok := if alt.isEmpty then [] else i.alt.getD [] ++ alt

theorem altOf_none (i : Instr) (alt : List Tok) (h : i.alt = none) : altOf i alt = alt := by
  unfold altOf
  cases he : alt.isEmpty with
  | true => simp [List.isEmpty_iff.mp he]
  | false => simp [h]

theorem mark_fields (x : Instr) : (mark x).before = x.before ∧ (mark x).after = x.after ∧ (mark x).alt = some [] ∧ (mark x).tok = x.tok := by
  simp [mark]

theorem planBlockAlt_mid (A B : List Instr) (x : Instr) (alt : List Tok) :
    ∃ y, planBlockAlt (A ++ x :: B) A.length alt = A ++ y :: B ∧ y.before = x.before ∧ y.after = x.after ∧ y.alt = some (altOf x alt)
      ∧ y.tok = x.tok := by
  unfold planBlockAlt altOf
  cases he : alt.isEmpty with
  | true =>
    have : alt = [] := List.isEmpty_iff.mp he
    subst this
    simp only [if_true]
    exact ⟨mark x, markAt_mid A B x, (mark_fields x).1, (mark_fields x).2.1, (mark_fields x).2.2.1, (mark_fields x).2.2.2⟩
  | false =>
    simp only [Bool.false_eq_true, if_false, discardSpecial, modifyAt_mid]
    exact ⟨_, rfl, rfl, rfl, rfl, rfl⟩

theorem range_succ_getLast (n : Nat) : (List.range (n + 1)).getLast? = some n := by rw [List.range_succ, List.getLast?_concat]

theorem range_succ_dropLast (n : Nat) : (List.range (n + 1)).dropLast = List.range n := by rw [List.range_succ, List.dropLast_concat]

theorem top_range_succ (n : Nat) : top (List.range (n + 1)) = n := by
  rw [top, range_succ_getLast]; rfl

/-- what a clean instruction does to the depth: `none` = an `end` without an open block -/
def depthStep (k : Kind) (n : Nat) : Option Nat :=
  match k with
  | .block | .loop | .if_ => some (n + 1)
  | .end_ => if n = 0 then none else some (n - 1)
  | _ => some n

def depthAfter : List Instr → Nat → Option Nat
  | [], n => some n
  | x :: xs, n => (depthStep x.kind n).bind (depthAfter xs)

theorem depthAfter_modifyAt (g : Instr → Instr) (hg : ∀ x, (g x).kind = x.kind) :
    ∀ (xs : List Instr) (i n : Nat), depthAfter (modifyAt xs i g) n = depthAfter xs n
  | [], i, n => by rw [modifyAt_eq_modify, List.modify_nil]
  | x :: xs, 0, n => by rw [modifyAt_eq_modify, List.modify_zero_cons, depthAfter, depthAfter, hg]
  | x :: xs, i + 1, n => by
    rw [modifyAt_eq_modify, List.modify_succ_cons, ← modifyAt_eq_modify, depthAfter, depthAfter]
    congr 1; funext m; exact depthAfter_modifyAt g hg xs i m

theorem find?_key_eq_none {l : List (Nat × ToInject)} {k : Nat} : l.find? (·.1 == k) = none ↔ l.any (·.1 == k) = false := by
  rw [List.find?_eq_none, List.any_eq_false]

theorem getInj_absent (l : List (Nat × ToInject)) (k : Nat) (h : l.any (·.1 == k) = false) : getInj l k = {} := by
  rw [getInj, find?_key_eq_none.mpr h]

theorem getInj_setInj (l : List (Nat × ToInject)) (k j : Nat) (v : ToInject) :
    getInj (setInj l k v) j = if j = k then v else getInj l j := by
  unfold setInj getInj
  cases h : l.any (·.1 == k) with
  | true =>
    -- the entry of key `k` is replaced; keys do not change
    have hq : ((fun p : Nat × ToInject => p.1 == j) ∘ fun p => if (p.1 == k) = true then (k, v) else p) = fun p => p.1 == j := by
      funext p; by_cases hp : p.1 = k <;> simp [hp]
    rw [if_pos rfl, List.find?_map, hq]
    cases hf : l.find? (·.1 == j) with
    | none =>
      by_cases hjk : j = k
      · rw [hjk, find?_key_eq_none, h] at hf; cases hf
      · simp [hjk]
    | some p =>
      have hp : p.1 = j := by simpa using List.find?_some hf
      by_cases hjk : j = k <;> simp [hp, hjk]
  | false =>
    rw [if_neg (by simp), List.find?_append]
    by_cases hjk : j = k
    · rw [hjk, find?_key_eq_none.mpr h]; simp
    · have : ¬ k = j := fun e => hjk e.symm
      cases l.find? (·.1 == j) <;> simp [this, hjk]

theorem getInj_removeInj (l : List (Nat × ToInject)) (k j : Nat) : getInj (removeInj l k) j = if j = k then {} else getInj l j := by
  unfold getInj removeInj
  rw [List.find?_filter]
  by_cases hjk : j = k
  · rw [if_pos hjk, hjk, List.find?_eq_none.mpr (by intro x _; simp)]
  · have : (fun a : Nat × ToInject => decide ((a.1 != k) = true ∧ (a.1 == j) = true)) = fun a => a.1 == j := by
      funext a; by_cases ha : a.1 = j <;> simp [ha, hjk]
    rw [if_neg hjk, this]

theorem removeInj_absent (l : List (Nat × ToInject)) (k : Nat) (h : l.any (·.1 == k) = false) : removeInj l k = l := by
  unfold removeInj
  apply List.filter_eq_self.mpr
  intro p hp
  have := List.any_eq_false.mp h p hp
  simpa using this

/-- what a table entry contributes when it is resolved, for entries without flagged bodies -/
def flat (t : ToInject) : List Tok := t.notFlagged.flatten

theorem resolveBodies_noflag (t : ToInject) (h : t.flagged = []) : resolveBodies t = flat t := by
  simp [resolveBodies, resolveBodies.chain, h, flat]

/-- the flag-guarded chain that `resolve_bodies` builds from the flagged bodies of one table entry -/
def chainToks (fl : List (List Tok × Nat)) : List Tok :=
  resolveBodies.chain fl true ++ (if fl.isEmpty then [] else [tEnd])

theorem resolveBodies_eq (t : ToInject) : resolveBodies t = chainToks t.flagged ++ flat t := rfl

theorem chainToks_nil : chainToks [] = [] := rfl

theorem resolveBodies_plain (pr : List Tok) : resolveBodies { flagged := [], notFlagged := [pr] } = pr := by
  simp [resolveBodies, resolveBodies.chain]

def addFlat (tbl : List (Nat × ToInject)) (k : Nat) (body : List Tok) : List (Nat × ToInject) :=
  setInj tbl k { getInj tbl k with notFlagged := (getInj tbl k).notFlagged ++ [body] }

theorem addFlat_flagged (tbl : List (Nat × ToInject)) (k j : Nat) (body : List Tok) :
    (getInj (addFlat tbl k body) j).flagged = (getInj tbl j).flagged := by
  rw [addFlat, getInj_setInj]
  split
  · rename_i hj; rw [hj]
  · rfl

theorem addFlat_flat (tbl : List (Nat × ToInject)) (k j : Nat) (body : List Tok) :
    flat (getInj (addFlat tbl k body) j) = flat (getInj tbl j) ++ (if j = k then body else []) := by
  rw [addFlat, getInj_setInj]
  split
  · rename_i hj; rw [hj]; simp [flat]
  · simp

def addFlag (tbl : List (Nat × ToInject)) (k : Nat) (e : List Tok × Nat) : List (Nat × ToInject) :=
  setInj tbl k { getInj tbl k with flagged := (getInj tbl k).flagged ++ [e] }

theorem addFlag_flagged (tbl : List (Nat × ToInject)) (k j : Nat) (e : List Tok × Nat) :
    (getInj (addFlag tbl k e) j).flagged = (getInj tbl j).flagged ++ (if j = k then [e] else []) := by
  rw [addFlag, getInj_setInj]
  split
  · rename_i hj; rw [hj]
  · simp

theorem addFlag_flat (tbl : List (Nat × ToInject)) (k j : Nat) (e : List Tok × Nat) :
    flat (getInj (addFlag tbl k e) j) = flat (getInj tbl j) := by
  rw [addFlag, getInj_setInj]
  split
  · rename_i hj; rw [hj]; rfl
  · rfl

def Grown (c c' : Instr) (ts : List Tok) : Prop :=
  c'.before = c.before ∧ c'.after = c.after ++ ts ∧ c'.alt = c.alt ∧ c'.tok = c.tok

theorem Grown.trans {a b c : Instr} {t u : List Tok} (h1 : Grown a b t) (h2 : Grown b c u) : Grown a c (t ++ u) :=
  ⟨h2.1.trans h1.1, by rw [h2.2.1, h1.2.1, List.append_assoc], h2.2.2.1.trans h1.2.2.1, h2.2.2.2.trans h1.2.2.2⟩

/-- the current instruction after the step: token and alternate kept, `before` and `after` extended -/
def Chg (c c' : Instr) (B A : List Tok) : Prop :=
  c'.before = c.before ++ B ∧ c'.after = c.after ++ A ∧ c'.alt = c.alt ∧ c'.tok = c.tok

theorem Chg.refl (c : Instr) : Chg c c [] [] := ⟨by simp, by simp, rfl, rfl⟩

theorem Chg.trans {a b c : Instr} {B A B' A' : List Tok} (h1 : Chg a b B A) (h2 : Chg b c B' A') : Chg a c (B ++ B') (A ++ A') :=
  ⟨by rw [h2.1, h1.1, List.append_assoc], by rw [h2.2.1, h1.2.1, List.append_assoc], h2.2.2.1.trans h1.2.2.1, h2.2.2.2.trans h1.2.2.2⟩

theorem Chg.add_before (c : Instr) (m : Option Mode) (ts : List Tok) : Chg c { c with mode := m, before := c.before ++ ts } ts [] :=
  ⟨rfl, (List.append_nil _).symm, rfl, rfl⟩

theorem Chg.add_after (c : Instr) (m : Option Mode) (ts : List Tok) : Chg c { c with mode := m, after := c.after ++ ts } [] ts :=
  ⟨(List.append_nil _).symm, rfl, rfl, rfl⟩

def Cleared (x : Instr) : Prop := x.semAfter = [] ∧ x.blockEntry = [] ∧ x.blockExit = [] ∧ x.blockAlt = none

/-- what the second resolution meets: nothing parked, nothing being removed, no function-level code -/
structure Quiet (s : RState) : Prop where
  entry : s.entry = []
  exit : s.exit = []
  del : s.deleteBlock = none
  t1 : s.onElseOrEnd = []
  t2 : s.onEndBefore = []
  t3 : s.onEndAfter = []

/-- the function-level part of one iteration: entry code in front of instruction 0, exit code in front of every instruction that
    leaves the function and in front of the final `end` -/
def rpre (last : Nat) (s : RState) (idx : Nat) (ins : Instr) : RState :=
  let s := if !s.entry.isEmpty && idx == 0 then { s with body := addBefore s.body 0 s.entry, entry := [] } else s
  if s.exit.isEmpty then s
  else if ins.kind == .exitLike then { s with body := addBefore s.body idx s.exit }
  else if idx == last then { s with body := addBefore s.body idx ([tEnd] ++ s.exit), exit := [] }
  else s

/-- the rest of the iteration: block structure, alternates, special lists -/
def rcore (s : RState) (idx : Nat) (ins : Instr) : RState :=
  let handleAlt (s : RState) (isElse : Bool) : Option RState :=
    match ins.blockAlt with
    | some alt =>
      if s.deleteBlock.isNone then
        some { s with body := planBlockAlt s.body idx alt, retainEnd := isElse, deleteBlock := some (top s.stack) }
      else some { s with body := discardSpecial (setEmptyAlt s.body idx) idx }
    | none => if s.deleteBlock.isSome then some { s with body := discardSpecial (setEmptyAlt s.body idx) idx } else none
  let flushElseOrEnd (s : RState) (k : Nat) : RState :=
    if s.onElseOrEnd.any (·.1 == k) then
      { s with body := addBefore s.body idx (resolveBodies (getInj s.onElseOrEnd k)), onElseOrEnd := removeInj s.onElseOrEnd k }
    else s
  match ins.kind with
  | .block | .loop | .if_ =>
    let s := { s with stack := s.stack ++ [s.stack.length] }
    match handleAlt s false with
    | some s' => s'
    | none => planSpecial s idx ins
  | .else_ =>
    let s := flushElseOrEnd s (top s.stack)
    match handleAlt s true with
    | some s' => s'
    | none => planSpecial s idx ins
  | .end_ =>
    match s.stack.getLast? with
    | none => planSpecial s idx ins
    | some blockId =>
      let s := { s with stack := s.stack.dropLast }
      let cont : Option RState :=
        match s.deleteBlock with
        | some d =>
          if d == blockId then
            if !s.retainEnd then some { s with deleteBlock := none, retainEnd := true, body := discardSpecial (setEmptyAlt s.body idx) idx }
            else none
          else some { s with body := discardSpecial (setEmptyAlt s.body idx) idx }
        | none => none
      match cont with
      | some s' => s'
      | none =>
        let s := if s.deleteBlock == some blockId then { s with deleteBlock := none, retainEnd := true } else s
        let s := flushElseOrEnd s blockId
        let bInj := getInj s.onEndBefore blockId
        let aInj := getInj s.onEndAfter blockId
        let hasB := s.onEndBefore.any (·.1 == blockId)
        let hasA := s.onEndAfter.any (·.1 == blockId)
        let b := if hasB then addBefore s.body idx (resolveBodies bInj) else s.body
        let b := if hasA then addAfter b idx (resolveBodies aInj) else b
        let s := { s with body := b, onEndBefore := removeInj s.onEndBefore blockId, onEndAfter := removeInj s.onEndAfter blockId }
        planSpecial s idx ins
  | _ =>
    if s.deleteBlock.isSome then { s with body := discardSpecial (setEmptyAlt s.body idx) idx }
    else planSpecial s idx ins

theorem rstep_eq (last : Nat) (s : RState) (idx : Nat) (ins : Instr) : rstep last s idx ins = rcore (rpre last s idx ins) idx ins := rfl

theorem rpre_nil (last : Nat) (s : RState) (idx : Nat) (ins : Instr) (h1 : s.entry = []) (h2 : s.exit = []) : rpre last s idx ins = s := by
  simp [rpre, h1, h2]

theorem rstep_core (last : Nat) (s : RState) (idx : Nat) (ins : Instr) (he : s.entry = []) (hx : s.exit = []) :
    rstep last s idx ins = rcore s idx ins := by
  rw [rstep_eq, rpre_nil _ _ _ _ he hx]

def rpre1 (s : RState) (idx : Nat) : RState :=
  if !s.entry.isEmpty && idx == 0 then { s with body := addBefore s.body 0 s.entry, entry := [] } else s

def rpre2 (last : Nat) (s : RState) (idx : Nat) (ins : Instr) : RState :=
  if s.exit.isEmpty then s
  else if ins.kind == .exitLike then { s with body := addBefore s.body idx s.exit }
  else if idx == last then { s with body := addBefore s.body idx ([tEnd] ++ s.exit), exit := [] }
  else s

theorem rpre_eq (last : Nat) (s : RState) (idx : Nat) (ins : Instr) : rpre last s idx ins = rpre2 last (rpre1 s idx) idx ins := rfl

theorem rpre1_eq (s : RState) (done rest : List Instr) (c : Instr) (E : List Tok) (hb : s.body = done ++ c :: rest)
    (hE : s.entry = if done.length = 0 then E else []) :
    ∃ c1, rpre1 s done.length = { s with body := done ++ c1 :: rest, entry := [] } ∧ Chg c c1 (if done.length = 0 then E else []) [] := by
  unfold rpre1
  by_cases h : (!s.entry.isEmpty && done.length == 0) = true
  · -- entry code in front of instruction 0
    have h0 : done.length = 0 := by simpa using (Bool.and_eq_true_iff.mp h).2
    refine ⟨{ c with mode := some .before, before := c.before ++ s.entry }, ?_, ?_⟩
    · rw [if_pos h, ← h0, hb, addBefore, modifyAt_mid]
    · rw [← hE]; exact Chg.add_before c _ _
  · -- nothing to place: the entry code is empty already
    have he : s.entry = [] := by
      by_cases h0 : done.length = 0
      · simpa [h0] using h
      · rw [hE, if_neg h0]
    refine ⟨c, ?_, by rw [← hE, he]; exact Chg.refl c⟩
    rw [if_neg h, ← hb, ← he]

theorem rpre2_eq (last : Nat) (s : RState) (done rest : List Instr) (c ins : Instr) (hb : s.body = done ++ c :: rest) :
    ∃ c2 ex, rpre2 last s done.length ins = { s with body := done ++ c2 :: rest, exit := ex }
      ∧ Chg c c2 (if s.exit.isEmpty then [] else if ins.kind = .exitLike then s.exit else if done.length = last then tEnd :: s.exit else []) []
      ∧ (done.length < last → ex = s.exit) := by
  unfold rpre2
  by_cases hX : s.exit.isEmpty = true
  · exact ⟨c, s.exit, by rw [if_pos hX, ← hb], by rw [if_pos hX]; exact Chg.refl c, fun _ => rfl⟩
  rw [if_neg hX, if_neg hX]
  by_cases hk : ins.kind = .exitLike
  · exact ⟨_, s.exit, by rw [if_pos (by simpa using hk), hb, addBefore, modifyAt_mid], by rw [if_pos hk]; exact Chg.add_before c _ _,
      fun _ => rfl⟩
  rw [if_neg (by simpa using hk), if_neg hk]
  by_cases hl : done.length = last
  · exact ⟨_, [], by rw [if_pos (by simpa using hl), hb, addBefore, modifyAt_mid], by rw [if_pos hl]; exact Chg.add_before c _ _,
      fun h => absurd hl (by omega)⟩
  · exact ⟨c, s.exit, by rw [if_neg (by simpa using hl), ← hb], by rw [if_neg hl]; exact Chg.refl c, fun _ => rfl⟩

/-- the pending block-exit bodies of an `if` are put in front of its `else` / `end` -/
def flushE (s : RState) (idx k : Nat) : RState :=
  if s.onElseOrEnd.any (·.1 == k) then
    { s with body := addBefore s.body idx (resolveBodies (getInj s.onElseOrEnd k)), onElseOrEnd := removeInj s.onElseOrEnd k }
  else s

/-- what an `end` does once its block id `n` has been popped: flush the three tables at `n` around it -/
def endE (s : RState) (idx n : Nat) : RState :=
  let s := flushE s idx n
  let b := if s.onEndBefore.any (·.1 == n) then addBefore s.body idx (resolveBodies (getInj s.onEndBefore n)) else s.body
  let b := if s.onEndAfter.any (·.1 == n) then addAfter b idx (resolveBodies (getInj s.onEndAfter n)) else b
  { s with body := b, onEndBefore := removeInj s.onEndBefore n, onEndAfter := removeInj s.onEndAfter n }

theorem flushE_absent (s : RState) (idx k : Nat) (h : s.onElseOrEnd.any (·.1 == k) = false) : flushE s idx k = s := by
  unfold flushE; rw [if_neg (by rw [h]; simp)]

theorem endE_absent (s : RState) (idx k : Nat) (h1 : s.onElseOrEnd.any (·.1 == k) = false)
    (h2 : s.onEndBefore.any (·.1 == k) = false) (h3 : s.onEndAfter.any (·.1 == k) = false) : endE s idx k = s := by
  unfold endE
  rw [flushE_absent s idx k h1]
  simp only [h2, h3, Bool.false_eq_true, if_false, removeInj_absent _ _ h2, removeInj_absent _ _ h3]

theorem flushE_deleteBlock (s : RState) (idx k : Nat) : (flushE s idx k).deleteBlock = s.deleteBlock := by
  unfold flushE; split <;> rfl

theorem flushE_stack (s : RState) (idx k : Nat) : (flushE s idx k).stack = s.stack := by
  unfold flushE; split <;> rfl

theorem flushE_tables (s : RState) (idx n : Nat) :
    (flushE s idx n).onElseOrEnd = removeInj s.onElseOrEnd n ∧ (flushE s idx n).onEndBefore = s.onEndBefore
      ∧ (flushE s idx n).onEndAfter = s.onEndAfter := by
  unfold flushE
  split
  · exact ⟨rfl, rfl, rfl⟩
  · rename_i h
    exact ⟨(removeInj_absent _ _ ((Bool.not_eq_true _).mp h)).symm, rfl, rfl⟩

theorem resolveBodies_getInj_absent (l : List (Nat × ToInject)) (k : Nat) (h : l.any (·.1 == k) = false) :
    resolveBodies (getInj l k) = [] := by rw [getInj_absent l k h]; rfl

theorem flushE_eq (s : RState) (A B : List Instr) (c : Instr) (k : Nat) (hb : s.body = A ++ c :: B) :
    ∃ c', flushE s A.length k = { s with body := A ++ c' :: B, onElseOrEnd := removeInj s.onElseOrEnd k }
      ∧ Chg c c' (resolveBodies (getInj s.onElseOrEnd k)) [] := by
  unfold flushE
  cases ha : s.onElseOrEnd.any (·.1 == k) with
  | true =>
    exact ⟨_, by rw [if_pos rfl, hb, addBefore, modifyAt_mid], Chg.add_before c _ _⟩
  | false =>
    refine ⟨c, ?_, ?_⟩
    · rw [if_neg (by simp), removeInj_absent _ _ ha, ← hb]
    · rw [resolveBodies_getInj_absent _ _ ha]; exact Chg.refl c

theorem endE_eq (s : RState) (A B : List Instr) (c : Instr) (n : Nat) (hb : s.body = A ++ c :: B) :
    ∃ c', endE s A.length n = { s with body := A ++ c' :: B, onElseOrEnd := removeInj s.onElseOrEnd n,
                                        onEndBefore := removeInj s.onEndBefore n, onEndAfter := removeInj s.onEndAfter n }
      ∧ Chg c c' (resolveBodies (getInj s.onElseOrEnd n) ++ resolveBodies (getInj s.onEndBefore n))
          (resolveBodies (getInj s.onEndAfter n)) := by
  obtain ⟨c1, h1, g1⟩ := flushE_eq s A B c n hb
  unfold endE
  rw [h1]
  cases hB : s.onEndBefore.any (·.1 == n) <;> cases hA : s.onEndAfter.any (·.1 == n) <;>
    simp only [hB, hA, Bool.false_eq_true, if_false, if_true, addBefore, addAfter, modifyAt_mid]
  · exact ⟨c1, rfl, by rw [resolveBodies_getInj_absent _ _ hB, resolveBodies_getInj_absent _ _ hA]; simpa using g1⟩
  · exact ⟨_, rfl, by rw [resolveBodies_getInj_absent _ _ hB]; simpa using g1.trans (Chg.add_after c1 _ _)⟩
  · exact ⟨_, rfl, by rw [resolveBodies_getInj_absent _ _ hA]; simpa using g1.trans (Chg.add_before c1 _ _)⟩
  · exact ⟨_, rfl, by simpa using (g1.trans (Chg.add_before c1 (some .before) _)).trans (Chg.add_after _ _ _)⟩

def stageEntry (s : RState) (idx : Nat) (ins : Instr) : RState :=
  if ins.blockEntry.isEmpty then s
  else
    let b := if ins.kind.isBlockStyle then addAfter s.body idx ins.blockEntry else s.body
    { s with body := modifyAt b idx (fun i => { i with blockEntry := [] }) }

def stageExit (s : RState) (idx : Nat) (ins : Instr) : RState :=
  if ins.blockExit.isEmpty then s
  else
    let s := match ins.kind with
      | .if_ =>
        let k := top s.stack
        let cur := getInj s.onElseOrEnd k
        { s with onElseOrEnd := setInj s.onElseOrEnd k { cur with notFlagged := cur.notFlagged ++ [ins.blockExit] } }
      | .block | .loop | .else_ =>
        let k := top s.stack
        let cur := getInj s.onEndBefore k
        { s with onEndBefore := setInj s.onEndBefore k { cur with notFlagged := cur.notFlagged ++ [ins.blockExit] } }
      | _ => s
    { s with body := modifyAt s.body idx (fun i => { i with blockExit := [] }) }

def stageSemG (s : RState) (idx : Nat) (ins : Instr) : RState :=
  if ins.semAfter.isEmpty then s
  else
    let park (s : RState) (fl : Nat) (depth : Nat) : RState :=
      let k := top s.stack - depth
      let cur := getInj s.onEndAfter k
      { s with onEndAfter := setInj s.onEndAfter k { cur with flagged := cur.flagged ++ [(ins.semAfter, fl)] } }
    let flag (s : RState) (inline : Bool) : RState × Nat :=
      let fl := s.nlocals
      let b := addBefore s.body idx [tConst 1, tLocalSet fl]
      let b := addAfter b idx ([tConst 0, tLocalSet fl] ++ (if inline then ins.semAfter else []))
      ({ s with body := b, nlocals := s.nlocals + 1, added := s.added + 1 }, fl)
    let s := match ins.kind with
      | .block | .loop | .if_ | .else_ =>
        let k := top s.stack
        let cur := getInj s.onEndAfter k
        { s with onEndAfter := setInj s.onEndAfter k { cur with notFlagged := cur.notFlagged ++ [ins.semAfter] } }
      | .brTable targets d =>
        let (s, fl) := flag s false
        park (targets.foldl (fun s t => park s fl t) s) fl d
      | .br d => let (s, fl) := flag s false; park s fl d
      | .brIf d => let (s, fl) := flag s true; park s fl d
      | _ => s
    { s with body := modifyAt s.body idx (fun i => { i with semAfter := [] }) }

theorem blockStyle_cases {k : Kind} (h : k.isBlockStyle = true) : k = .block ∨ k = .loop ∨ k = .if_ ∨ k = .else_ := by
  cases k with
  | block => exact .inl rfl
  | loop => exact .inr (.inl rfl)
  | if_ => exact .inr (.inr (.inl rfl))
  | else_ => exact .inr (.inr (.inr rfl))
  | _ => cases h

theorem hasInstr_false {ins : Instr} (h : ins.hasInstr = false) : ins.blockEntry = [] ∧ ins.blockExit = [] ∧ ins.semAfter = [] := by
  simp only [Instr.hasInstr, Bool.or_eq_false_iff, Bool.not_eq_false', List.isEmpty_iff] at h
  exact ⟨h.1.1.2, h.1.2, h.1.1.1.2⟩

theorem stageEntry_nil (s : RState) (idx : Nat) {ins : Instr} (h : ins.blockEntry = []) : stageEntry s idx ins = s := by
  rw [stageEntry, h]; rfl

theorem stageExit_nil (s : RState) (idx : Nat) {ins : Instr} (h : ins.blockExit = []) : stageExit s idx ins = s := by
  rw [stageExit, h]; rfl

theorem stageSemG_nil (s : RState) (idx : Nat) {ins : Instr} (h : ins.semAfter = []) : stageSemG s idx ins = s := by
  rw [stageSemG, h]; rfl

theorem planSpecial_stages (s : RState) (idx : Nat) (ins : Instr) :
    planSpecial s idx ins = stageSemG (stageExit (stageEntry s idx ins) idx ins) idx ins := by
  -- by definition `planSpecial` is the three stages unless there is no instrumentation, and then every stage is the identity
  show (if !ins.hasInstr then s else stageSemG (stageExit (stageEntry s idx ins) idx ins) idx ins) = _
  cases hi : ins.hasInstr with
  | true => rfl
  | false =>
    obtain ⟨h1, h2, h3⟩ := hasInstr_false hi
    rw [stageEntry_nil s idx h1, stageExit_nil s idx h2, stageSemG_nil s idx h3]; rfl

theorem planSpecial_nospecial (s : RState) (idx : Nat) (ins : Instr) (h1 : ins.semAfter = []) (h2 : ins.blockEntry = []) (h3 : ins.blockExit = []) :
    planSpecial s idx ins = s := by
  rw [planSpecial_stages, stageEntry_nil s idx h2, stageExit_nil s idx h3, stageSemG_nil s idx h1]

def parkAllT (tbl : List (Nat × ToInject)) (topId : Nat) (e : List Tok × Nat) (ts : List Nat) : List (Nat × ToInject) :=
  ts.foldl (fun t d => addFlag t (topId - d) e) tbl

def parkS (e : List Tok × Nat) (s : RState) (t : Nat) : RState :=
  { s with onEndAfter := addFlag s.onEndAfter (top s.stack - t) e }

theorem foldl_park (e : List Tok × Nat) : ∀ (ts : List Nat) (s : RState),
    ts.foldl (parkS e) s = { s with onEndAfter := parkAllT s.onEndAfter (top s.stack) e ts } := by
  intro ts
  induction ts with
  | nil => intro s; rfl
  | cons t ts ih =>
    intro s
    simp only [List.foldl_cons, ih, parkAllT]
    rfl

theorem stageEntry_eq (s : RState) (A B : List Instr) (c ins : Instr) (hk : ins.kind.isBlockStyle = true) (hb : s.body = A ++ c :: B) :
    ∃ c', stageEntry s A.length ins = { s with body := A ++ c' :: B } ∧ Chg c c' [] ins.blockEntry := by
  unfold stageEntry
  cases hE : ins.blockEntry.isEmpty with
  | true => exact ⟨c, by rw [if_pos rfl, ← hb], by rw [List.isEmpty_iff.mp hE]; exact Chg.refl c⟩
  | false =>
    refine ⟨{ c with mode := some .after, after := c.after ++ ins.blockEntry, blockEntry := [] }, ?_,
      (List.append_nil _).symm, rfl, rfl, rfl⟩
    simp only [Bool.false_eq_true, if_false, hk, if_true, hb, addAfter, modifyAt_mid]

theorem stageExit_eq (s : RState) (A B : List Instr) (c ins : Instr) (hk : ins.kind.isBlockStyle = true) (hb : s.body = A ++ c :: B) :
    ∃ c', stageExit s A.length ins =
        { s with body := A ++ c' :: B,
                 onElseOrEnd := if ins.kind = .if_ ∧ ins.blockExit ≠ [] then addFlat s.onElseOrEnd (top s.stack) ins.blockExit
                                else s.onElseOrEnd,
                 onEndBefore := if ins.kind ≠ .if_ ∧ ins.blockExit ≠ [] then addFlat s.onEndBefore (top s.stack) ins.blockExit
                                else s.onEndBefore }
      ∧ Chg c c' [] [] := by
  unfold stageExit
  cases hX : ins.blockExit.isEmpty with
  | true =>
    refine ⟨c, ?_, Chg.refl c⟩
    simp only [if_true, List.isEmpty_iff.mp hX, ne_eq, not_true_eq_false, and_false, if_false]; rw [← hb]
  | false =>
    have hne : ins.blockExit ≠ [] := by intro e; rw [e] at hX; cases hX
    refine ⟨{ c with blockExit := [] }, ?_, Chg.refl c⟩
    rcases blockStyle_cases hk with hkk | hkk | hkk | hkk <;>
      simp only [hkk, Bool.false_eq_true, if_false, hb, modifyAt_mid, addFlat, hne, ne_eq, not_false_eq_true, and_self, and_true, if_true,
        reduceCtorEq, not_true_eq_false]

theorem stageSemG_eq (s : RState) (A B : List Instr) (c ins : Instr) (hk : ins.kind.isBlockStyle = true) (hb : s.body = A ++ c :: B) :
    ∃ c', stageSemG s A.length ins =
        { s with body := A ++ c' :: B,
                 onEndAfter := if ins.semAfter ≠ [] then addFlat s.onEndAfter (top s.stack) ins.semAfter else s.onEndAfter }
      ∧ Chg c c' [] [] := by
  unfold stageSemG
  cases hS : ins.semAfter.isEmpty with
  | true =>
    refine ⟨c, ?_, Chg.refl c⟩
    simp only [if_true, List.isEmpty_iff.mp hS, ne_eq, not_true_eq_false, if_false]; rw [← hb]
  | false =>
    have hne : ins.semAfter ≠ [] := by intro e; rw [e] at hS; cases hS
    refine ⟨{ c with semAfter := [] }, ?_, Chg.refl c⟩
    rcases blockStyle_cases hk with hkk | hkk | hkk | hkk <;>
      simp only [hkk, Bool.false_eq_true, if_false, hb, modifyAt_mid, addFlat, hne, ne_eq, not_false_eq_true, if_true]

theorem planSpecial_blockStyle (s : RState) (A B : List Instr) (c ins : Instr) (hk : ins.kind.isBlockStyle = true)
    (hb : s.body = A ++ c :: B) :
    ∃ c', planSpecial s A.length ins =
        { s with body := A ++ c' :: B,
                 onElseOrEnd := if ins.kind = .if_ ∧ ins.blockExit ≠ [] then addFlat s.onElseOrEnd (top s.stack) ins.blockExit
                                else s.onElseOrEnd,
                 onEndBefore := if ins.kind ≠ .if_ ∧ ins.blockExit ≠ [] then addFlat s.onEndBefore (top s.stack) ins.blockExit
                                else s.onEndBefore,
                 onEndAfter := if ins.semAfter ≠ [] then addFlat s.onEndAfter (top s.stack) ins.semAfter else s.onEndAfter }
      ∧ Chg c c' [] ins.blockEntry := by
  obtain ⟨c1, h1, g1⟩ := stageEntry_eq s A B c ins hk hb
  obtain ⟨c2, h2, g2⟩ := stageExit_eq { s with body := A ++ c1 :: B } A B c1 ins hk rfl
  obtain ⟨c3, h3, g3⟩ := stageSemG_eq (stageExit { s with body := A ++ c1 :: B } A.length ins) A B c2 ins hk (by rw [h2])
  refine ⟨c3, ?_, by simpa using (g1.trans g2).trans g3⟩
  rw [planSpecial_stages s A.length ins, h1, h3, h2]

/-- what is left of an iteration when the instruction carries no special list: the stack moves, the tables of the block that an
    `else` continues or an `end` closes are flushed -/
def pass (s : RState) (idx : Nat) (k : Kind) : RState :=
  match k with
  | .block | .loop | .if_ => { s with stack := s.stack ++ [s.stack.length] }
  | .else_ => flushE s idx (top s.stack)
  | .end_ =>
    match s.stack.getLast? with
    | none => s
    | some b => endE { s with stack := s.stack.dropLast } idx b
  | _ => s

/-! the two ways `handleAlt` ends an iteration: the instruction is marked (a removal is in progress), or a removal starts at it -/

def markS (s : RState) (idx : Nat) : RState := { s with body := markAt s.body idx }

def startS (s : RState) (idx : Nat) (alt : List Tok) (isElse : Bool) : RState :=
  { s with body := planBlockAlt s.body idx alt, retainEnd := isElse, deleteBlock := some (top s.stack) }

theorem pass_open (s : RState) (idx : Nat) {k : Kind} (hk : k = .block ∨ k = .loop ∨ k = .if_) :
    pass s idx k = { s with stack := s.stack ++ [s.stack.length] } := by
  rcases hk with rfl | rfl | rfl <;> rfl

theorem pass_else (s : RState) (idx : Nat) {n : Nat} (hst : s.stack = List.range (n + 1)) : pass s idx .else_ = flushE s idx n := by
  rw [pass, hst, top_range_succ]

theorem pass_end (s : RState) (idx : Nat) {n : Nat} (hst : s.stack = List.range (n + 1)) :
    pass s idx .end_ = endE { s with stack := List.range n } idx n := by
  rw [pass, hst, range_succ_getLast, range_succ_dropLast]

theorem pass_other (s : RState) (idx : Nat) {k : Kind} (hk : k.isBlockStyle = false) (hke : k ≠ .end_) : pass s idx k = s := by
  cases k <;> first | exact absurd rfl hke | rfl | cases hk

theorem not_blockStyle_of_ne {k : Kind} (hk : k ≠ .block ∧ k ≠ .loop ∧ k ≠ .if_ ∧ k ≠ .else_ ∧ k ≠ .end_) : k.isBlockStyle = false := by
  cases k <;> first | rfl | simp at hk

theorem markS_mid (s : RState) (A B : List Instr) (c : Instr) (hb : s.body = A ++ c :: B) :
    markS s A.length = { s with body := A ++ mark c :: B } := by
  rw [markS, hb, markAt_mid]

theorem startS_mid (s : RState) (A B : List Instr) (c : Instr) (alt : List Tok) (e : Bool) (hb : s.body = A ++ c :: B) :
    ∃ y, startS s A.length alt e = { s with body := A ++ y :: B, retainEnd := e, deleteBlock := some (top s.stack) }
      ∧ y.before = c.before ∧ y.after = c.after ∧ y.alt = some (altOf c alt) ∧ y.tok = c.tok := by
  obtain ⟨y, hy, h⟩ := planBlockAlt_mid A B c alt
  exact ⟨y, by rw [startS, hb, hy], h⟩

/-- `rcore` with its pieces named (`flushE`, `endE`, `startS`, `markS`); what the equations below are read off -/
theorem rcore_unfold (s : RState) (idx : Nat) (ins : Instr) :
    rcore s idx ins =
      (let handleAlt (s : RState) (isElse : Bool) : Option RState :=
        match ins.blockAlt with
        | some alt => if s.deleteBlock.isNone then some (startS s idx alt isElse) else some (markS s idx)
        | none => if s.deleteBlock.isSome then some (markS s idx) else none
      match ins.kind with
      | .block | .loop | .if_ =>
        let s := { s with stack := s.stack ++ [s.stack.length] }
        match handleAlt s false with
        | some s' => s'
        | none => planSpecial s idx ins
      | .else_ =>
        let s := flushE s idx (top s.stack)
        match handleAlt s true with
        | some s' => s'
        | none => planSpecial s idx ins
      | .end_ =>
        match s.stack.getLast? with
        | none => planSpecial s idx ins
        | some blockId =>
          let s := { s with stack := s.stack.dropLast }
          let cont : Option RState :=
            match s.deleteBlock with
            | some d =>
              if d == blockId then
                if !s.retainEnd then some { s with deleteBlock := none, retainEnd := true, body := markAt s.body idx } else none
              else some (markS s idx)
            | none => none
          match cont with
          | some s' => s'
          | none =>
            let s := if s.deleteBlock == some blockId then { s with deleteBlock := none, retainEnd := true } else s
            planSpecial (endE s idx blockId) idx ins
      | _ => if s.deleteBlock.isSome then markS s idx else planSpecial s idx ins) := rfl

theorem rcore_plain (s : RState) (idx : Nat) (ins : Instr) (hba : ins.blockAlt = none) (hd : s.deleteBlock = none) :
    rcore s idx ins = planSpecial (pass s idx ins.kind) idx ins := by
  have hfd := (flushE_deleteBlock s idx (top s.stack)).trans hd
  rw [rcore_unfold]
  cases hk : ins.kind with
  | block | loop | if_ => all_goals simp only [pass, hba, hd, Option.isSome_none, Bool.false_eq_true, if_false]
  | else_ => simp only [pass, hba, hfd, Option.isSome_none, Bool.false_eq_true, if_false]
  | end_ =>
    cases hl : s.stack.getLast? with
    | none => simp only [pass, hl]
    | some b =>
      have hne : ((none : Option Nat) == some b) = false := rfl
      simp only [pass, hl, hd, hne, Bool.false_eq_true, if_false]
  | br _ | brIf _ | brTable _ _ | exitLike | other => all_goals simp only [pass, hd, Option.isSome_none, Bool.false_eq_true, if_false]

theorem rcore_other (s : RState) (idx : Nat) (ins : Instr) (hk : ins.kind.isBlockStyle = false) (hke : ins.kind ≠ .end_)
    (hd : s.deleteBlock = none) : rcore s idx ins = planSpecial s idx ins := by
  rw [rcore_unfold]
  cases hkk : ins.kind with
  | block | loop | if_ | else_ => all_goals (rw [hkk] at hk; cases hk)
  | end_ => exact absurd hkk hke
  | br _ | brIf _ | brTable _ _ | exitLike | other => all_goals simp only [hd, Option.isSome_none, Bool.false_eq_true, if_false]

theorem rcore_start (s : RState) (idx : Nat) (ins : Instr) (alt : List Tok) (hba : ins.blockAlt = some alt) (hd : s.deleteBlock = none)
    (hk : ins.kind = .block ∨ ins.kind = .loop ∨ ins.kind = .if_ ∨ ins.kind = .else_) :
    rcore s idx ins = startS (pass s idx ins.kind) idx alt (ins.kind == .else_) := by
  have hfd := (flushE_deleteBlock s idx (top s.stack)).trans hd
  rw [rcore_unfold]
  rcases hk with hk | hk | hk | hk <;>
    simp only [hk, pass, hba, hd, hfd, Option.isNone_none, if_true] <;> rfl

theorem rstep_cleared (last : Nat) (s : RState) (idx : Nat) (ins : Instr) (hc : Cleared ins) (he : s.entry = []) (hx : s.exit = [])
    (hd : s.deleteBlock = none) : rstep last s idx ins = pass s idx ins.kind := by
  rw [rstep_core last s idx ins he hx, rcore_plain s idx ins hc.2.2.2 hd, planSpecial_nospecial _ idx ins hc.1 hc.2.1 hc.2.2.1]

theorem rcore_removing (s : RState) (idx : Nat) (ins : Instr) (d : Nat) (hd : s.deleteBlock = some d) (hk : ins.kind ≠ .end_) :
    rcore s idx ins = markS (pass s idx ins.kind) idx := by
  have hfd : (flushE s idx (top s.stack)).deleteBlock = some d := by unfold flushE; split <;> exact hd
  rw [rcore_unfold]
  cases hkk : ins.kind with
  | end_ => exact absurd hkk hk
  | block | loop | if_ =>
    all_goals cases ins.blockAlt <;> simp only [pass, hd, Option.isSome_some, Option.isNone_some, Bool.false_eq_true, if_false, if_true]
  | else_ =>
    cases ins.blockAlt <;> simp only [pass, hfd, Option.isSome_some, Option.isNone_some, Bool.false_eq_true, if_false, if_true]
  | br _ | brIf _ | brTable _ _ | exitLike | other => all_goals simp only [pass, hd, Option.isSome_some, if_true]

theorem rcore_end_empty (s : RState) (idx : Nat) (ins : Instr) (hk : ins.kind = .end_) (hl : s.stack.getLast? = none) :
    rcore s idx ins = planSpecial s idx ins := by
  rw [rcore_unfold]
  simp only [hk, hl]

theorem rcore_removing_end (s : RState) (idx : Nat) (ins : Instr) (d b : Nat) (hd : s.deleteBlock = some d) (hk : ins.kind = .end_)
    (hl : s.stack.getLast? = some b) :
    rcore s idx ins =
      if d = b then
        if s.retainEnd then planSpecial (endE { s with stack := s.stack.dropLast, deleteBlock := none, retainEnd := true } idx b) idx ins
        else { s with stack := s.stack.dropLast, deleteBlock := none, retainEnd := true, body := markAt s.body idx }
      else { s with stack := s.stack.dropLast, body := markAt s.body idx } := by
  rw [rcore_unfold]
  simp only [hk, hl, hd]
  by_cases hdb : d = b
  · subst hdb
    cases hr : s.retainEnd <;> simp
  · have : (d == b) = false := by simpa using hdb
    simp only [this, hdb, Bool.false_eq_true, if_false, markS]

end Orca.Lower
