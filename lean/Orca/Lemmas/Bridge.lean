import Orca.Lemmas.StackFull
import Orca.Model.SemTree
import Orca.Lemmas.SemScope
/-!
Running the machine `specRunF` (M3, Lemmas/StackFull) over the flattening of an annotated
tree program gives the tokens of the tree-lowered program (M4, `Sem.lower`), on the scope `okL`. `parkFrom` says what a fragment's flagged
branches leave in the frames around it, which makes the statement compositional. The fragment lemmas have the shape `Emits` (`Emits.step`
one instruction, `Emits.append` concatenation); `run_flatI` / `run_flatL` are that shape unfolded.
-/
namespace Orca.Bridge
open Orca.Lower (Tok Kind tConst tLocalGet tLocalSet tIf tElse tEnd tWrapper Fr Del specRunF specStepF fnPre flaggedBranch parkAllF
  branchTargets chainToks endAfter frAt frAt_push frAt_parkAllF frAt_ext fnPre_lt PlainF)
open Orca.Sem (Instr Ann SA OpK probes flagChain pendingI pendingL setFlag flagsI flagsL)

/-- probes as tokens, as the driver writes them (`i32.const p; call <log>`) -/
def P (ps : List Nat) : List Tok := SemTree.probeToks ps

def tokOf (k : OpK) : Tok := SemTree.showOp k

def brTok (n : Nat) : Tok := s!"br:{n}"
def brIfTok (n : Nat) : Tok := s!"br_if:{n}"
def brTableTok (ts : List Nat) (d : Nat) : Tok := s!"br_table:{".".intercalate (ts.map toString)}/{d}"

theorem showOp_const {v : Nat} (h : v < 2147483648) : SemTree.showOp (.const v) = tConst v := by simp [SemTree.showOp, tConst, h]
theorem showOp_localGet (f : Nat) : SemTree.showOp (.localGet f) = tLocalGet f := rfl
theorem showOp_localSet (f : Nat) : SemTree.showOp (.localSet f) = tLocalSet f := rfl

def mk (t : Tok) (k : Kind) : Lower.Instr := { tok := t, kind := k }

def saToks : Option SA → List Tok
  | some s => P s.ps
  | none => []

mutual
/-- an annotated structured instruction as the flat instructions (with instrumentation lists) the API would have built -/
def flatI : Instr → List Lower.Instr
  | .op b a k => [{ mk (tokOf k) .other with before := P b, after := P a }]
  | .probe id => [mk (tConst id) .other, mk s!"call:{SemTree.logFn}" .other]
  | .block b ann _ tk body =>
    { mk tk .block with before := P b, blockEntry := P ann.entry, blockExit := P ann.exit, semAfter := P ann.after }
      :: (flatL body ++ [mk tEnd .end_])
  | .loop b ann tk body =>
    { mk tk .loop with before := P b, blockEntry := P ann.entry, blockExit := P ann.exit, semAfter := P ann.after }
      :: (flatL body ++ [mk tEnd .end_])
  | .ite b annT annE _ tk t e hasElse =>
    { mk tk .if_ with before := P b, blockEntry := P annT.entry, blockExit := P annT.exit, semAfter := P annT.after }
      :: (flatL t
          ++ (if hasElse then
                { mk tElse .else_ with blockEntry := P annE.entry, blockExit := P annE.exit, semAfter := P annE.after } :: flatL e
              else [])
          ++ [mk tEnd .end_])
  | .br b a sa n => [{ mk (brTok n) (.br n) with before := P b, after := P a, semAfter := saToks sa }]
  | .brIf b a sa n => [{ mk (brIfTok n) (.brIf n) with before := P b, after := P a, semAfter := saToks sa }]
  | .brTable b a sa ts d => [{ mk (brTableTok ts d) (.brTable ts d) with before := P b, after := P a, semAfter := saToks sa }]
  | .ret b a => [{ mk "return" .exitLike with before := P b, after := P a }]
  | .unreachable b a => [{ mk "unreachable" .exitLike with before := P b, after := P a }]
def flatL : List Instr → List Lower.Instr
  | [] => []
  | i :: is => flatI i ++ flatL is
end

mutual
/-- the structural scope on which tree lowering and code agree: at most two flag-guarded bodies behind one `end`, no flagged branch
    targeting a loop, semantic-after probes on branches are non-empty, an `if` without `else` has no else-arm data -/
def okI : Instr → Bool
  | .block _ _ _ _ body => decide ((pendingL 0 body).length ≤ 2) && okL body
  | .loop _ _ _ body => (pendingL 0 body).isEmpty && okL body
  | .ite _ _ annE _ _ t e hasElse =>
    decide ((pendingL 0 t ++ pendingL 0 e).length ≤ 2) && okL t && okL e && (hasElse || (e.isEmpty && annE == {}))
  | .br _ _ (some s) _ | .brIf _ _ (some s) _ | .brTable _ _ (some s) _ _ => !s.ps.isEmpty
  | _ => true
def okL : List Instr → Bool
  | [] => true
  | i :: is => okI i && okL is
end

mutual
/-- every branch stays inside the `avail` constructs (function body included) that are open around the fragment -/
def depthOkI (avail : Nat) : Instr → Bool
  | .br _ _ _ n | .brIf _ _ _ n => decide (n < avail)
  | .brTable _ _ _ ts d => ts.all (fun t => decide (t < avail)) && decide (d < avail)
  | .block _ _ _ _ body | .loop _ _ _ body => depthOkL (avail + 1) body
  | .ite _ _ _ _ _ t e _ => depthOkL (avail + 1) t && depthOkL (avail + 1) e
  | _ => true
def depthOkL (avail : Nat) : List Instr → Bool
  | [] => true
  | i :: is => depthOkI avail i && depthOkL avail is
end

abbrev toksI := SemTree.flattenI
abbrev toksL := SemTree.flattenL

theorem append_of_cons {α : Type} {fI : Instr → List α} {fL : List Instr → List α} (h0 : fL [] = [])
    (hc : ∀ i is, fL (i :: is) = fI i ++ fL is) : ∀ (a b : List Instr), fL (a ++ b) = fL a ++ fL b
  | [], b => by simp [h0]
  | i :: a, b => by simp [hc, append_of_cons h0 hc a b]

theorem toksL_append : ∀ (a b : List Instr), toksL (a ++ b) = toksL a ++ toksL b := append_of_cons rfl fun _ _ => rfl

theorem toksL_cons (i : Instr) (is : List Instr) : toksL (i :: is) = toksI i ++ toksL is := rfl

theorem flatL_append : ∀ (a b : List Instr), flatL (a ++ b) = flatL a ++ flatL b := append_of_cons rfl fun _ _ => rfl

theorem pendingL_append (d : Nat) : ∀ (a b : List Instr), pendingL d (a ++ b) = pendingL d a ++ pendingL d b :=
  append_of_cons rfl fun _ _ => rfl

theorem pendingL_single (d : Nat) (i : Instr) : pendingL d [i] = pendingI d i := by simp [pendingL]

theorem range_split {a b : List Nat} {n : Nat} (h : a ++ b = List.range' n (a ++ b).length) :
    a = List.range' n a.length ∧ b = List.range' (n + a.length) b.length := by
  have : List.range' n (a ++ b).length = List.range' n a.length ++ List.range' (n + 1 * a.length) b.length := by
    rw [List.range'_append, List.length_append]
  rw [this] at h
  have := List.append_inj h (by simp)
  simpa using this

theorem toksL_probes : ∀ ps : List Nat, toksL (probes ps) = P ps
  | [] => rfl
  | p :: ps => by
    have := toksL_probes ps
    simp only [probes, List.map_cons, toksL, SemTree.flattenL, SemTree.flattenI] at this ⊢
    rw [this]; simp [P, SemTree.probeToks]

theorem P_nil : P [] = [] := rfl
theorem P_append (a b : List Nat) : P (a ++ b) = P a ++ P b := by simp [P, SemTree.probeToks]

theorem P_ne_nil (ps : List Nat) (h : ps.isEmpty = false) : P ps ≠ [] := by
  cases ps with
  | nil => simp at h
  | cons p ps => simp [P, SemTree.probeToks]

/-- what a flagged branch parks: the probe's tokens and the flag local -/
def conv (sa : SA) : List Tok × Nat := (P sa.ps, sa.flag)

/-- the token form of the tree model's flag chain is the chain `resolve_bodies` builds — for at most two guarded bodies (with three the
    code's chain is ill-formed: finding F27) -/
theorem toksL_flagChain (sas : List SA) (h : sas.length ≤ 2) : toksL (flagChain sas) = chainToks (sas.map conv) := by
  match sas, h with
  | [], _ => rfl
  | [s], _ | [s1, s2], _ =>
    simp [flagChain, SemTree.flattenL, SemTree.flattenI, chainToks, Lower.resolveBodies.chain, conv, showOp_localGet, toksL_probes, tIf, tEnd,
      tElse]
  | _ :: _ :: _ :: _, h => simp at h

/-- the frames after a fragment has run: the frame `d` levels out (0 = innermost) has received the bodies of the fragment's flagged
    branches that leave to exactly that level, in program order -/
def parkFrom (body : List Instr) : Nat → List Fr → List Fr
  | _, [] => []
  | d, f :: fr => { f with afterFl := f.afterFl ++ (pendingL d body).map conv } :: parkFrom body (d + 1) fr

theorem parkFrom_cons (body : List Instr) (d : Nat) (f : Fr) (fr : List Fr) :
    parkFrom body d (f :: fr) = { f with afterFl := f.afterFl ++ (pendingL d body).map conv } :: parkFrom body (d + 1) fr := rfl

theorem parkFrom_length (body : List Instr) : ∀ (d : Nat) (fr : List Fr), (parkFrom body d fr).length = fr.length
  | _, [] => rfl
  | d, f :: fr => by simp [parkFrom, parkFrom_length body (d + 1) fr]

theorem parkFrom_ne_nil (body : List Instr) (d : Nat) (fr : List Fr) (h : fr ≠ []) : parkFrom body d fr ≠ [] := by
  cases fr with
  | nil => exact absurd rfl h
  | cons f fr => simp [parkFrom]

theorem parkFrom_nil_body : ∀ (d : Nat) (fr : List Fr), parkFrom [] d fr = fr
  | _, [] => rfl
  | d, f :: fr => by simp [parkFrom, pendingL, parkFrom_nil_body (d + 1) fr]

theorem parkFrom_append (a b : List Instr) : ∀ (d : Nat) (fr : List Fr), parkFrom b d (parkFrom a d fr) = parkFrom (a ++ b) d fr
  | _, [] => rfl
  | d, f :: fr => by simp [parkFrom, pendingL_append, parkFrom_append a b (d + 1) fr]

theorem parkFrom_shift (k : Nat) (a b : List Instr) (h : ∀ d, pendingL d a = pendingL (d + k) b) : ∀ (d : Nat) (fr : List Fr),
    parkFrom a d fr = parkFrom b (d + k) fr
  | _, [] => rfl
  | d, f :: fr => by simp [parkFrom, h d, parkFrom_shift k a b h (d + 1) fr, Nat.add_right_comm]

theorem parkFrom_congr (a b : List Instr) (h : ∀ d, pendingL d a = pendingL d b) : ∀ (d : Nat) (fr : List Fr), parkFrom a d fr = parkFrom b d fr :=
  parkFrom_shift 0 a b h

theorem parkFrom_noPending (body : List Instr) (h : ∀ d, pendingL d body = []) (d : Nat) (fr : List Fr) : parkFrom body d fr = fr :=
  (parkFrom_congr body [] h d fr).trans (parkFrom_nil_body d fr)

theorem frAt_parkFrom (body : List Instr) : ∀ (fr : List Fr) (d k : Nat), k < fr.length →
    frAt (parkFrom body d fr) k
      = { frAt fr k with afterFl := (frAt fr k).afterFl ++ (pendingL (d + (fr.length - 1 - k)) body).map conv } := by
  intro fr
  induction fr with
  | nil => intro d k hk; simp at hk
  | cons f fr ih =>
    intro d k hk
    simp only [parkFrom]
    rw [frAt_push, parkFrom_length, frAt_push]
    by_cases hkk : k = fr.length
    · subst hkk; simp
    · have hk' : k < fr.length := by simp only [List.length_cons] at hk; omega
      simp only [hkk, if_false]
      rw [ih (d + 1) k hk']
      have : d + 1 + (fr.length - 1 - k) = d + ((f :: fr).length - 1 - k) := by simp only [List.length_cons]; omega
      rw [this]

theorem park_branch (fr : List Fr) (s : SA) (targets : List Nat) (i : Instr) (hfr : fr ≠ [])
    (hp : ∀ d, pendingI d i = targets.filterMap (fun n => if n = d then some s else none))
    (hv : ∀ t ∈ targets, t < fr.length) :
    parkAllF fr (fr.length - 1) (P s.ps, s.flag) targets = parkFrom [i] 0 fr := by
  have hl : fr.length - 1 < fr.length := by
    have : 0 < fr.length := List.length_pos_iff.mpr hfr
    omega
  obtain ⟨l1, l2⟩ := frAt_parkAllF (fr.length - 1) (P s.ps, s.flag) targets fr hl
  apply frAt_ext
  · rw [l1, parkFrom_length]
  · intro k hk
    rw [l1] at hk
    rw [l2 k, frAt_parkFrom [i] fr 0 k hk]
    have hfm : ∀ (m : Nat) (ts : List Nat),
        ts.filterMap (fun n => if n = m then some s else none) = (ts.filter (· = m)).map (fun _ => s) :=
      fun m ts => by rw [← List.filterMap_eq_map', List.filterMap_filter]; simp
    -- both sides keep the targets that designate the frame with id `k`
    have hsame : targets.filter (fun t => fr.length - 1 - t = k) = targets.filter (· = fr.length - 1 - k) :=
      List.filter_congr fun t ht => by have := hv t ht; simp only [decide_eq_decide]; omega
    simp [pendingL, hp, hfm, hsame, conv]

/-- the result of running a fragment: its tokens in front of what the rest of the run gives -/
def Pre (ts : List Tok) (r : Option (List Tok × Nat)) : Option (List Tok × Nat) := r.map (fun r => (ts ++ r.1, r.2))

theorem Pre_Pre (a b : List Tok) (r : Option (List Tok × Nat)) : Pre a (Pre b r) = Pre (a ++ b) r := by
  cases r <;> simp [Pre]

theorem Pre_nil (r : Option (List Tok × Nat)) : Pre [] r = r := by cases r <;> simp [Pre]

/-- the flat fragment `xs`, entered at instruction `idx` in the frames `fr` with `nl` locals (outside removed code, entry code aside) and
    ending before the function's last instruction, emits `ts` and hands the frames `fr'` and `nl'` locals to whatever follows it -/
def Emits (last : Nat) (X : List Tok) (idx : Nat) (fr : List Fr) (nl : Nat) (xs : List Lower.Instr) (ts : List Tok) (fr' : List Fr)
    (nl' : Nat) : Prop :=
  idx + xs.length ≤ last → ∀ rest,
    specRunF last [] X idx fr none nl (xs ++ rest) = Pre ts (specRunF last [] X (idx + xs.length) fr' none nl' rest)

section
variable {last : Nat} {X : List Tok} {idx : Nat} {fr fr' fr'' : List Fr} {nl nl' nl'' : Nat} {xs ys : List Lower.Instr} {ts us : List Tok}
  {x : Lower.Instr}

theorem Emits.append (h1 : Emits last X idx fr nl xs ts fr' nl') (h2 : Emits last X (idx + xs.length) fr' nl' ys us fr'' nl'') :
    Emits last X idx fr nl (xs ++ ys) (ts ++ us) fr'' nl'' := fun hl rest => by
  rw [List.length_append, ← Nat.add_assoc] at hl
  rw [List.append_assoc, h1 (by omega), h2 hl, Pre_Pre, List.length_append, Nat.add_assoc]

theorem Emits.toks (h : Emits last X idx fr nl xs ts fr' nl') (e : us = ts) : Emits last X idx fr nl xs us fr' nl' := e ▸ h

theorem Emits.step {b a : List Tok} (hs : specStepF fr none nl x = some (fr', none, nl', b, x.alt, a)) (hxa : x.alt = none) (hne : fr' ≠ []) :
    Emits last X idx fr nl [x] (x.before ++ (if x.kind = .exitLike then X else []) ++ b ++ x.tok :: (x.after ++ a)) fr' nl' :=
  fun hl rest => by
  -- the premise of `Emits`, `idx + [x].length ≤ last`
  replace hl : idx < last := hl
  have hfe : fr'.isEmpty = false := by cases fr' with | nil => exact absurd rfl hne | cons _ _ => rfl
  have hge : ¬ idx ≥ last := by omega
  show specRunF last [] X idx fr none nl (x :: rest) = Pre _ (specRunF last [] X (idx + 1) fr' none nl' rest)
  simp only [specRunF, hs, hxa, hfe, Bool.false_and, Bool.false_eq_true, if_false, hge, Option.getD_none, fnPre_lt last X idx x hl]
  cases specRunF last [] X (idx + 1) fr' none nl' rest <;> simp [Pre]

theorem Emits.opener {f0 : Fr} (hs : specStepF fr none nl x = some (f0 :: fr, none, nl, [], x.alt, x.blockEntry)) (hxa : x.alt = none)
    (hk : x.kind ≠ .exitLike) : Emits last X idx fr nl [x] (x.before ++ x.tok :: (x.after ++ x.blockEntry)) (f0 :: fr) nl :=
  (Emits.step hs hxa (by simp)).toks (by simp [hk])

theorem Emits.else_ {top : Fr} (hfr : fr ≠ []) (hk : x.kind = .else_) (hba : x.blockAlt = none) (hxa : x.alt = none) :
    Emits last X idx (top :: fr) nl [x] (x.before ++ top.ifExit ++ x.tok :: (x.after ++ x.blockEntry))
      ({ top with ifExit := [], exitB := top.exitB ++ x.blockExit, afterA := top.afterA ++ x.semAfter } :: fr) nl :=
  (Emits.step (Lower.specStepF_else hk hba hfr) hxa (by simp)).toks (by simp [hk])

theorem Emits.end_ {top : Fr} (hfr : fr ≠ []) :
    Emits last X idx (top :: fr) nl [mk tEnd .end_] ((top.ifExit ++ top.exitB) ++ tEnd :: endAfter top) fr nl :=
  (Emits.step (x := mk tEnd .end_) (Lower.specStepF_end rfl) rfl hfr).toks (by simp [mk])

end

section
variable {last : Nat} {X : List Tok} {fx : List Nat} {i : Instr} {idx : Nat} {fr : List Fr}

theorem emits_one {x : Lower.Instr} (hflat : flatI i = [x]) (hxa : x.alt = none) (hf : flaggedBranch x = false)
    (hb : x.kind.isBlockStyle = false) (he : x.kind ≠ .end_) (hpend : ∀ d, pendingI d i = []) (hflags : flagsI i = [])
    (nl : Nat) (hfr : fr ≠ [])
    (htoks : toksL (Sem.lower fx i) = x.before ++ (if x.kind = .exitLike then X else []) ++ x.tok :: x.after) :
    Emits last X idx fr nl (flatI i) (toksL (Sem.lower fx i)) (parkFrom [i] 0 fr) (nl + (flagsI i).length) := by
  rw [hflat, parkFrom_noPending [i] (fun d => by simp [pendingL, hpend]), hflags]
  exact (Emits.step (Lower.specStepF_other hf hb he) hxa hfr).toks (by simp [htoks])

theorem emits_flagged {x : Lower.Instr} {s : SA} (hflat : flatI i = [x]) (hxa : x.alt = none) (hk : x.kind.isBranching = true)
    (hsem : x.semAfter = P s.ps) (hps : s.ps.isEmpty = false)
    (hpend : ∀ d, pendingI d i = (branchTargets x.kind).filterMap (fun n => if n = d then some s else none))
    (hflags : flagsI i = [s.flag]) (nl : Nat) (hfr : fr ≠ [])
    (hv : ∀ t ∈ branchTargets x.kind, t < fr.length) (hnum : flagsI i = List.range' nl (flagsI i).length)
    (htoks : toksL (Sem.lower fx i) = x.before ++ [tConst 1, tLocalSet s.flag] ++ x.tok :: (x.after ++
      ([tConst 0, tLocalSet s.flag] ++ Lower.notTaken x))) :
    Emits last X idx fr nl (flatI i) (toksL (Sem.lower fx i)) (parkFrom [i] 0 fr) (nl + (flagsI i).length) := by
  have hflag : nl = s.flag := by rw [hflags] at hnum; simpa using hnum.symm
  subst hflag
  have hf : flaggedBranch x = true := by simp [flaggedBranch, hk, hsem, P_ne_nil s.ps hps]
  have hne : x.kind ≠ .exitLike := by intro e; rw [e] at hk; cases hk
  rw [hflat, ← park_branch fr s _ i hfr hpend hv, hflags, ← hsem]
  exact (Emits.step (Lower.specStepF_flagged hf hfr) hxa
    (by rw [hsem, park_branch fr s _ i hfr hpend hv]; exact parkFrom_ne_nil _ _ _ hfr)).toks (by simp [htoks, hne])

/-- a construct with one body (`block`, `loop`, `if` without `else`); `x` is the opener, `ih` the run of the body -/
theorem emits_construct {x : Lower.Instr} {f0 : Fr} {body : List Instr} {nl : Nat}
    (hflat : flatI i = x :: (flatL body ++ [mk tEnd .end_]))
    (hs : specStepF fr none nl x = some (f0 :: fr, none, nl, [], x.alt, x.blockEntry)) (hxa : x.alt = none) (hke : x.kind ≠ .exitLike)
    (hpend : ∀ d, pendingL d [i] = pendingL (d + 1) body) (hflags : flagsI i = flagsL body) (hfr : fr ≠ [])
    (ih : Emits last X (idx + 1) (f0 :: fr) nl (flatL body) (toksL (Sem.lowerL fx body)) (parkFrom body 0 (f0 :: fr))
      (nl + (flagsL body).length))
    (htoks : toksL (Sem.lower fx i) = (x.before ++ x.tok :: (x.after ++ x.blockEntry)) ++ (toksL (Sem.lowerL fx body) ++
      ((f0.ifExit ++ f0.exitB) ++ tEnd :: (chainToks (f0.afterFl ++ (pendingL 0 body).map conv) ++ f0.afterA)))) :
    Emits last X idx fr nl (flatI i) (toksL (Sem.lower fx i)) (parkFrom [i] 0 fr) (nl + (flagsI i).length) := by
  rw [hflat, parkFrom_shift 1 [i] body hpend 0 fr, hflags, htoks]
  -- the frames the body hands on, `parkFrom body 0 (f0 :: fr)`, are `{ f0 with afterFl := … } :: parkFrom body 1 fr` (`parkFrom_cons`):
  -- `Emits.end_` pops the first and leaves the others
  exact (Emits.opener hs hxa hke).append (ih.append (Emits.end_ (parkFrom_ne_nil _ _ _ hfr)))

end

section
attribute [local simp] toksL_append toksL_cons toksL_probes SemTree.flattenL SemTree.flattenI mk tokOf

theorem emits_ite {last : Nat} {X : List Tok} {fx : List Nat} {idx : Nat} {fr : List Fr} {b : List Nat} {annT annE : Ann} {ar : Nat}
    {tk : Tok} {t e : List Instr} {nl : Nat} (hfr : fr ≠ []) (hlen2 : (pendingL 0 t ++ pendingL 0 e).length ≤ 2)
    (iht : ∀ f0,
      Emits last X (idx + 1) (f0 :: fr) nl (flatL t) (toksL (Sem.lowerL fx t)) (parkFrom t 0 (f0 :: fr)) (nl + (flagsL t).length))
    (ihe : ∀ f1,
      Emits last X (idx + 1 + (flatL t).length + 1) (f1 :: parkFrom t 1 fr) (nl + (flagsL t).length) (flatL e) (toksL (Sem.lowerL fx e))
        (parkFrom e 0 (f1 :: parkFrom t 1 fr)) (nl + (flagsL t).length + (flagsL e).length)) :
    Emits last X idx fr nl (flatI (.ite b annT annE ar tk t e true)) (toksL (Sem.lower fx (.ite b annT annE ar tk t e true)))
      (parkFrom [.ite b annT annE ar tk t e true] 0 fr) (nl + (flagsI (.ite b annT annE ar tk t e true)).length) := by
  rw [show flatI (.ite b annT annE ar tk t e true) = _ :: (flatL t ++ (_ :: flatL e) ++ [_]) from rfl]
  simp only [List.cons_append, List.append_assoc]
  rw [parkFrom_shift 1 [.ite b annT annE ar tk t e true] (t ++ e) (fun d => by simp [pendingL, pendingI, pendingL_append]) 0 fr,
    ← parkFrom_append t e (0 + 1) fr,
    show nl + (flagsI (.ite b annT annE ar tk t e true)).length = nl + (flagsL t).length + (flagsL e).length by
      simp [flagsI, Nat.add_assoc]]
  have hch := toksL_flagChain _ hlen2
  rw [List.map_append] at hch
  -- opener, then-arm, `else`, else-arm, `end`; the frames an arm hands on, `parkFrom t 0 (f0 :: fr)`, are
  -- `{ f0 with afterFl := … } :: parkFrom t 1 fr` (`parkFrom_cons`): `Emits.else_` / `Emits.end_` work on the first and keep the others
  exact ((Emits.opener (Lower.specStepF_if rfl rfl) rfl (by simp)).append ((iht _).append
    ((Emits.else_ (parkFrom_ne_nil _ _ _ hfr) rfl rfl rfl).append ((ihe _).append
      (Emits.end_ (parkFrom_ne_nil _ _ _ (parkFrom_ne_nil _ _ _ hfr))))))).toks
    (by simp [Sem.lower, P_append, tEnd, tElse, endAfter, hch])

mutual
theorem run_flatI (last : Nat) (X : List Tok) (fx : List Nat) (hX : X = P fx) :
    ∀ (i : Instr) (idx : Nat) (fr : List Fr) (nl : Nat) (rest : List Lower.Instr),
      okI i = true → depthOkI fr.length i = true → flagsI i = List.range' nl (flagsI i).length → fr ≠ [] →
      idx + (flatI i).length ≤ last →
      specRunF last [] X idx fr none nl (flatI i ++ rest)
        = Pre (toksL (Sem.lower fx i))
            (specRunF last [] X (idx + (flatI i).length) (parkFrom [i] 0 fr) none (nl + (flagsI i).length) rest)
  | .op b a k | .ret b a | .unreachable b a | .br b a none n | .brIf b a none n | .brTable b a none ts d =>
    fun idx fr nl rest _ _ _ hfr hl =>
    emits_one (hflat := rfl) (hxa := rfl) (hf := rfl) (hb := rfl) (he := by simp) (hpend := fun _ => rfl) (hflags := rfl) nl hfr
      (htoks := by simp [Sem.lower, brTok, brIfTok, brTableTok, hX]) hl rest
  | .probe id => fun idx fr nl rest _ _ _ hfr hl => by
    rw [parkFrom_noPending _ (fun d => by simp [pendingL, pendingI])]
    exact ((Emits.step (x := mk (tConst id) .other) (Lower.specStepF_other rfl rfl (by simp)) rfl hfr).append
      (Emits.step (x := mk s!"call:{SemTree.logFn}" .other) (Lower.specStepF_other rfl rfl (by simp)) rfl hfr)).toks
      (by simp [Sem.lower, SemTree.probeToks, tConst, SemTree.logFn]) hl rest
  | .br b a (some s) n | .brIf b a (some s) n => fun idx fr nl rest hok hd hnum hfr hl =>
    emits_flagged (s := s) (hflat := rfl) (hxa := rfl) (hk := rfl) (hsem := rfl) (hps := by simpa [okI] using hok)
      (hpend := fun d => by by_cases h : n = d <;> simp [pendingI, branchTargets, h]) (hflags := rfl) nl hfr
      (hv := by simpa [depthOkI, branchTargets] using hd) hnum
      (htoks := by simp [Sem.lower, setFlag, saToks, showOp_const, showOp_localSet, brTok, brIfTok, Lower.notTaken]) hl rest
  | .brTable b a (some s) ts d => fun idx fr nl rest hok hd hnum hfr hl =>
    emits_flagged (s := s) (hflat := rfl) (hxa := rfl) (hk := rfl) (hsem := rfl) (hps := by simpa [okI] using hok)
      (hpend := fun d' => by simp [pendingI, branchTargets]) (hflags := rfl) nl hfr
      (hv := by simpa [depthOkI, branchTargets, or_imp, forall_and] using hd) hnum
      (htoks := by simp [Sem.lower, setFlag, showOp_const, showOp_localSet, brTableTok, Lower.notTaken]) hl rest
  | .block b ann ar tk body => fun idx fr nl rest hok hd hnum hfr hl => by
    simp only [okI, Bool.and_eq_true, decide_eq_true_eq] at hok
    exact emits_construct (hflat := rfl) (hs := Lower.specStepF_open (.inl rfl) rfl) (hxa := rfl) (hke := by simp)
      (hpend := fun d => by simp [pendingL, pendingI]) (hflags := rfl) hfr
      (ih := fun hl' rest' => run_flatL last X fx hX body (idx + 1) (_ :: fr) nl rest' hok.2 hd hnum (by simp) hl')
      (htoks := by simp [Sem.lower, tEnd, toksL_flagChain _ hok.1]) hl rest
  | .loop b ann tk body => fun idx fr nl rest hok hd hnum hfr hl => by
    simp only [okI, Bool.and_eq_true, List.isEmpty_iff] at hok
    exact emits_construct (hflat := rfl) (hs := Lower.specStepF_open (.inr rfl) rfl) (hxa := rfl) (hke := by simp)
      (hpend := fun d => by simp [pendingL, pendingI]) (hflags := rfl) hfr
      (ih := fun hl' rest' => run_flatL last X fx hX body (idx + 1) (_ :: fr) nl rest' hok.2 hd hnum (by simp) hl')
      (htoks := by simp [Sem.lower, tEnd, hok.1, Lower.chainToks_nil]) hl rest
  | .ite b annT annE ar tk t e hasElse => fun idx fr nl rest hok hd hnum hfr hl => by
    simp only [okI, Bool.and_eq_true, decide_eq_true_eq, Bool.or_eq_true] at hok
    obtain ⟨⟨⟨hlen2, hokt⟩, hoke⟩, helse⟩ := hok
    simp only [depthOkI, Bool.and_eq_true] at hd
    cases hasElse with
    | false =>
      -- no `else`: a construct with one body
      simp only [Bool.false_eq_true, false_or, List.isEmpty_iff, beq_iff_eq] at helse
      obtain ⟨rfl, rfl⟩ := helse
      have hnum' : flagsL t = List.range' nl (flagsL t).length := by simpa [flagsI, flagsL] using hnum
      have hflat : flatI (.ite b annT {} ar tk t [] false) = _ :: (flatL t ++ [] ++ [mk tEnd .end_]) := rfl
      rw [List.append_nil] at hflat
      exact emits_construct hflat (hs := Lower.specStepF_if rfl rfl) (hxa := rfl) (hke := by simp)
        (hpend := fun d => by simp [pendingL, pendingI]) (hflags := by simp [flagsI, flagsL]) hfr
        (ih := fun hl' rest' => run_flatL last X fx hX t (idx + 1) (_ :: fr) nl rest' hokt hd.1 hnum' (by simp) hl')
        (htoks := by simp [Sem.lower, Sem.lowerL, tEnd, pendingL, toksL_flagChain _ (by simpa [pendingL] using hlen2)]) hl rest
    | true =>
      obtain ⟨n1, n2⟩ := range_split (by simpa [flagsI] using hnum)
      exact emits_ite hfr hlen2
        (fun f0 hl' rest' => run_flatL last X fx hX t (idx + 1) (f0 :: fr) nl rest' hokt hd.1 n1 (by simp) hl')
        (fun f1 hl' rest' => run_flatL last X fx hX e _ (f1 :: parkFrom t 1 fr) _ rest' hoke (by simpa [parkFrom_length] using hd.2) n2
          (by simp) hl') hl rest
theorem run_flatL (last : Nat) (X : List Tok) (fx : List Nat) (hX : X = P fx) :
    ∀ (is : List Instr) (idx : Nat) (fr : List Fr) (nl : Nat) (rest : List Lower.Instr),
      okL is = true → depthOkL fr.length is = true → flagsL is = List.range' nl (flagsL is).length → fr ≠ [] →
      idx + (flatL is).length ≤ last →
      specRunF last [] X idx fr none nl (flatL is ++ rest)
        = Pre (toksL (Sem.lowerL fx is))
            (specRunF last [] X (idx + (flatL is).length) (parkFrom is 0 fr) none (nl + (flagsL is).length) rest)
  | [] => fun idx fr nl rest _ _ _ _ _ => by
    simp [flatL, Sem.lowerL, SemTree.flattenL, parkFrom_nil_body, flagsL, Pre_nil]
  | i :: is => fun idx fr nl rest hok hd hnum hfr hl => by
    simp only [okL, Bool.and_eq_true] at hok
    simp only [depthOkL, Bool.and_eq_true] at hd
    simp only [flagsL] at hnum
    obtain ⟨n1, n2⟩ := range_split hnum
    have := Emits.append (fun h r => run_flatI last X fx hX i idx fr nl r hok.1 hd.1 n1 hfr h)
      (fun h r => run_flatL last X fx hX is (idx + (flatI i).length) (parkFrom [i] 0 fr) (nl + (flagsI i).length) r hok.2
        (by rw [parkFrom_length]; exact hd.2) n2 (parkFrom_ne_nil _ _ _ hfr) h) hl rest
    rw [parkFrom_append [i] is 0 fr, ← toksL_append, Nat.add_assoc, ← List.length_append] at this
    exact this
end

end

def endInstr (F : Sem.Func) : Lower.Instr := { mk tEnd .end_ with before := P F.endBefore }

/-- a structured function as the flat function the API would have built -/
def flatF (F : Sem.Func) (nl : Nat) : Lower.Func :=
  { body := flatL F.body ++ [endInstr F], entry := P F.entry, exit := P F.exit, hasSpecial := true, nlocals := nl }

/-- entry code in front of instruction 0 stands behind that instruction's own `before` code; when there is none it simply comes first -/
theorem specRunF_entry_first (last : Nat) (E X : List Tok) (fr : List Fr) (del : Option Del) (nl : Nat) (i : Lower.Instr)
    (is : List Lower.Instr) (hb : i.before = []) :
    specRunF last E X 0 fr del nl (i :: is) = Pre E (specRunF last [] X 0 fr del nl (i :: is)) := by
  have hp : fnPre last E X 0 i = E ++ fnPre last [] X 0 i := by simp [fnPre]
  simp only [specRunF, hp, hb, List.nil_append]
  cases specStepF fr del nl i with
  | none => rfl
  | some r =>
    obtain ⟨fr', del', nl', b, alt, a⟩ := r
    simp only [Lower.specRunF_entry_irrelevant last E X is (0 + 1) fr' del' nl' (by omega)]
    by_cases h : (fr'.isEmpty && !is.isEmpty) = true
    · rw [if_pos h, if_pos h]; rfl
    · rw [if_neg h, if_neg h]
      cases specRunF last [] X (0 + 1) fr' del' nl' is <;> simp [Pre, List.append_assoc]

theorem run_flatF (F : Sem.Func) (nl : Nat) (hok : okL F.body = true) (hd : depthOkL 1 F.body = true)
    (hnum : flagsL F.body = List.range' nl (flagsL F.body).length)
    (hfirst : (F.entry = [] ∧ F.exit = []) ∨ ((flatF F nl).body.head?.map (·.before)) = some []) :
    specRunF ((flatF F nl).body.length - 1) (Lower.entryToks (flatF F nl)) (flatF F nl).exit 0 [{}] none nl (flatF F nl).body
      = some (toksL (Sem.lowerF F).body ++ [tEnd], nl + (flagsL F.body).length) := by
  have hlast : (flatF F nl).body.length - 1 = (flatL F.body).length := by simp [flatF]
  rw [hlast]
  -- the body and the final `end`, without entry code
  have hcore : specRunF (flatL F.body).length [] (P F.exit) 0 [{}] none nl (flatL F.body ++ [endInstr F])
      = some (toksL (Sem.lowerL F.exit F.body) ++ (P F.endBefore ++ (if (P F.exit).isEmpty then [] else tEnd :: P F.exit) ++ [tEnd]),
              nl + (flagsL F.body).length) := by
    rw [run_flatL (flatL F.body).length (P F.exit) F.exit rfl F.body 0 [{}] nl [endInstr F] hok (by simpa using hd) hnum (by simp)
      (by omega)]
    -- the final `end` (index `last`) pops the function body's own frame `[{}]`, which carries no exit code, and ends the run; in front
    -- of it `fnPre` puts, when there is exit code `X`, the wrapper's `end` and `X` (`tEnd :: X`)
    simp only [Nat.zero_add, specRunF, parkFrom, Lower.specStepF_end (i := endInstr F) rfl, List.isEmpty_nil, Bool.not_true,
      Bool.and_false, Bool.false_eq_true, if_false, if_true, ge_iff_le, Nat.le_refl, Pre, Option.map_some, List.append_nil]
    simp [fnPre, endInstr, mk]
  -- the entry code goes in front
  have hbody : (flatF F nl).body = flatL F.body ++ [endInstr F] := rfl
  have hentry : specRunF (flatL F.body).length (Lower.entryToks (flatF F nl)) (P F.exit) 0 [{}] none nl (flatL F.body ++ [endInstr F])
      = Pre (Lower.entryToks (flatF F nl))
          (specRunF (flatL F.body).length [] (P F.exit) 0 [{}] none nl (flatL F.body ++ [endInstr F])) := by
    rcases hfirst with ⟨h1, h2⟩ | h
    · rw [show Lower.entryToks (flatF F nl) = [] by simp [Lower.entryToks, flatF, h1, h2, P, SemTree.probeToks], Pre_nil]
    · rw [hbody] at h
      cases hxs : flatL F.body ++ [endInstr F] with
      | nil => simp at hxs
      | cons i is => rw [hxs] at h; exact specRunF_entry_first _ _ _ _ _ _ i is (by simpa using h)
  have hPe : (P F.exit).isEmpty = F.exit.isEmpty := by cases F.exit <;> simp [P, SemTree.probeToks]
  rw [show (flatF F nl).exit = P F.exit from rfl, hbody, hentry, hcore]
  simp only [Pre, Option.map_some, Option.some.injEq, Prod.mk.injEq, and_true, Lower.entryToks, Sem.lowerF, hPe,
    show (flatF F nl).exit = P F.exit from rfl, show (flatF F nl).entry = P F.entry from rfl]
  cases hex : F.exit.isEmpty with
  | true => simp [List.isEmpty_iff.mp hex, toksL_append, toksL_probes]
  | false => simp [toksL_append, toksL_cons, toksL_probes, SemTree.flattenI, tWrapper, tEnd]

theorem plainF_opener {x : Lower.Instr} (hk : x.kind.isBlockStyle = true) : PlainF x :=
  ⟨fun _ => hk, by simp [hk], by simp [hk]⟩

theorem plainF_leaf {x : Lower.Instr} (hba : x.blockAlt = none) (he : x.blockEntry = []) (hx : x.blockExit = [])
    (hs : x.kind.isBranching = true ∨ x.semAfter = []) : PlainF x :=
  ⟨by simp [hba], fun _ => ⟨he, hx⟩, fun _ hb => hs.resolve_left (by simp [hb])⟩

mutual
/-- built by `mk`, so without alternates; block-level lists on openers, semantic-after lists on openers and branches only -/
theorem flatI_plainF : ∀ (i : Instr) (x : Lower.Instr), x ∈ flatI i → PlainF x
  | .op .. | .ret .. | .unreachable .. => fun x h => by
    cases List.mem_singleton.mp h; exact plainF_leaf rfl rfl rfl (.inr rfl)
  | .br .. | .brIf .. | .brTable .. => fun x h => by
    cases List.mem_singleton.mp h; exact plainF_leaf rfl rfl rfl (.inl rfl)
  | .probe id => fun x h => by
    simp only [flatI, List.mem_cons, List.not_mem_nil, or_false] at h
    rcases h with rfl | rfl <;> exact plainF_leaf rfl rfl rfl (.inr rfl)
  | .block _ _ _ _ body | .loop _ _ _ body => fun x h => by
    simp only [flatI, List.mem_cons, List.mem_append, List.not_mem_nil, or_false] at h
    rcases h with rfl | h | rfl
    · exact plainF_opener rfl
    · exact flatL_plainF body x h
    · exact plainF_leaf rfl rfl rfl (.inr rfl)
  | .ite _ _ _ _ _ t e hasElse => fun x h => by
    simp only [flatI, List.mem_cons, List.mem_append, List.not_mem_nil, or_false] at h
    rcases h with rfl | (h | h) | rfl
    · exact plainF_opener rfl
    · exact flatL_plainF t x h
    · cases hasElse with
      | false => cases h
      | true =>
        rcases List.mem_cons.mp h with rfl | h
        · exact plainF_opener rfl
        · exact flatL_plainF e x h
    · exact plainF_leaf rfl rfl rfl (.inr rfl)
theorem flatL_plainF : ∀ (is : List Instr) (x : Lower.Instr), x ∈ flatL is → PlainF x
  | [] => fun x h => by cases h
  | i :: is => fun x h => by
    rcases List.mem_append.mp h with h | h
    · exact flatI_plainF i x h
    · exact flatL_plainF is x h
end

/-- Flatten a structured function with its annotations (M4) to the instruction list the injection API would have built (`flatF`) and let
    M3 — the transcription of `resolve_special_instrumentation` and the emission loop — lower it: the tokens are those of `lowerF F`
    followed by the final `end`, the locals added are its flags. Scope: `okL`, branch depths inside the function, flags numbered in
    program order from the first free local, no `before` code on the first instruction next to function-level code. -/
theorem code_lowering_is_tree_lowering (F : Sem.Func) (nl : Nat) (hok : okL F.body = true) (hd : depthOkL 1 F.body = true)
    (hnum : flagsL F.body = List.range' nl (flagsL F.body).length)
    (hfirst : (F.entry = [] ∧ F.exit = []) ∨ ((flatF F nl).body.head?.map (·.before)) = some []) :
    Lower.lower (flatF F nl) = (toksL (Sem.lowerF F).body ++ [tEnd], (flagsL F.body).length) := by
  have hp : ∀ x ∈ (flatF F nl).body, PlainF x := by
    intro x hx
    simp only [flatF, List.mem_append, List.mem_singleton] at hx
    rcases hx with hx | rfl
    · exact flatL_plainF F.body x hx
    · exact plainF_leaf rfl rfl rfl (.inr rfl)
  have := Lower.lower_eq_specF (flatF F nl) rfl hp _ _ (run_flatF F nl hok hd hnum hfirst)
  rw [this]
  simp [flatF]

/-- `code_lowering_is_tree_lowering` with the right-hand side as the sem driver writes it: `flattenF (lowerF F)` is what the driver prints as the model's
    `out=` for a case inside the tree scope, `(lower f).1` what it prints outside — on the scope they are the same list -/
theorem code_lowering_is_flattened_tree_lowering (F : Sem.Func) (nl : Nat) (hok : okL F.body = true) (hd : depthOkL 1 F.body = true)
    (hnum : flagsL F.body = List.range' nl (flagsL F.body).length)
    (hfirst : (F.entry = [] ∧ F.exit = []) ∨ ((flatF F nl).body.head?.map (·.before)) = some []) :
    Lower.lower (flatF F nl) = (SemTree.flattenF (Sem.lowerF F), (flagsL F.body).length) :=
  code_lowering_is_tree_lowering F nl hok hd hnum hfirst

end Orca.Bridge
