import Orca.Lemmas.Reindex2
import Orca.Model.Edit
import Orca.Model.EditInv
/-!
The invariant of one index space (`SpaceInv`: stored ids are positions, the live imported entries are the live import entries of the
kind, an unflagged vector is laid out) and what it gives for the first step of `encode_internal` (`remap_spec`): re-indexing succeeds,
positions of the result are the indices of the encoded module, and the id map sends a live entry's id to its new position (`Remapped`).
-/
namespace Orca.Edit
open Orca.Reindex

/-- live import entries of one kind, in import-section order: (position in `imports`, uid) -/
def liveEntries (I : List ImpEntry) (sp : Sp) : List (Nat × Nat) :=
  (I.zipIdx.filter (fun (p : ImpEntry × Nat) => p.1.sp == some sp && !p.1.del)).map (fun (p : ImpEntry × Nat) => (p.2, p.1.uid))

theorem impUids_eq (I : List ImpEntry) (sp : Sp) : impUids I sp = (liveEntries I sp).map (·.2) := by
  unfold impUids liveEntries
  conv => lhs; rw [← List.zipIdx_map_fst 0 I, List.filter_map, List.map_map]
  rw [List.map_map]; rfl

def key (it : Item) : Nat × Nat := (it.impId, it.uid)

structure SpaceInv (x : Space) (I : List ImpEntry) (sp : Sp) : Prop where
  fresh : IdsFresh x.items
  orig_le : x.numImp - x.numImpAdded ≤ x.items.length
  /-- what ties a vector to the import list: its live imported entries, put in the order of their import entries,
      are exactly the live import entries of that kind -/
  agree : (sortImports (x.items.filter keepImp)).map key = liveEntries I sp
  /-- a vector that is not flagged for re-indexing is already laid out: imports first, in import-section order,
      nothing deleted -/
  settled : x.recalc = false → x.items = sortImports (x.items.filter keepImp) ++ x.items.filter keepLoc

/-- the index space `sp` of the encoded module -/
def outSpace (I : List ImpEntry) (sp : Sp) (ys : List Item) : List Nat := impUids I sp ++ emittedLocals ys

theorem outSpace_of_layout (I : List ImpEntry) (sp : Sp) (A B : List Item)
    (hA : ∀ a ∈ A, a.imp = true) (hB : ∀ b ∈ B, keepLoc b = true)
    (hag : (sortImports A).map key = liveEntries I sp) :
    outSpace I sp (sortImports A ++ B) = (sortImports A ++ B).map (·.uid)
    ∧ ((sortImports A ++ B).filter (fun i => !i.imp)).map (·.uid) = emittedLocals (sortImports A ++ B) := by
  have hA' : ∀ a ∈ sortImports A, a.imp = true := fun a ha => hA a ((sortImports_perm A).subset ha)
  have h1 : (sortImports A ++ B).filter (fun i => !i.imp && !i.del) = B := by
    rw [List.filter_append, List.filter_eq_nil_iff.mpr (fun a ha => by simp [hA' a ha]),
      List.filter_eq_self.mpr (fun b hb => by simpa [keepLoc] using hB b hb), List.nil_append]
  have h2 : (sortImports A ++ B).filter (fun i => !i.imp) = B := by
    rw [List.filter_append, List.filter_eq_nil_iff.mpr (fun a ha => by simp [hA' a ha]),
      List.filter_eq_self.mpr (fun b hb => by simp [(keepLoc_iff.mp (hB b hb)).1]), List.nil_append]
  have himp : impUids I sp = (sortImports A).map (·.uid) := by
    rw [impUids_eq, ← hag, List.map_map]; rfl
  simp only [outSpace, emittedLocals, h1, h2, himp, List.map_append, and_self]

/-- what the first step of `encode_internal` achieves for one index space -/
structure Remapped (x : Space) (I : List ImpEntry) (sp : Sp) (ys : List Item) : Prop where
  /-- positions in `ys` are indices of the encoded module -/
  out : outSpace I sp ys = ys.map (·.uid)
  outMem : (ys.filter (fun i => !i.imp)).map (·.uid) = emittedLocals ys
  noDeleted : ∀ y ∈ ys, y.del = false
  live : ∀ i item, x.items[i]? = some item → item.del = false → ∃ p, mapping ys i = some p ∧ ys[p]? = some item
  /-- the code panics on such an id -/
  dead : ∀ i, (∀ item, x.items[i]? = some item → item.del = true) → mapping ys i = none

theorem mapping_id_of_fresh (xs : List Item) (hf : IdsFresh xs) (i : Nat) (item : Item) (h : xs[i]? = some item) :
    mapping xs i = some i :=
  mapping_some xs i i (idsFresh_nodup xs hf) (by simp [h, hf i item h])

theorem remap_spec (x : Space) (I : List ImpEntry) (sp : Sp) (inv : SpaceInv x I sp) :
    ∃ ys, remap x = some ys ∧ Remapped x I sp ys := by
  have hA : ∀ a ∈ x.items.filter keepImp, a.imp = true := fun a ha => (keepImp_iff.mp (List.mem_filter.mp ha).2).1
  by_cases hr : x.recalc = true
  · obtain ⟨ys, hrec, hys, hperm, hlive, hdead, hoob⟩ :=
      recalculate_spec (x.numImp - x.numImpAdded) x.items inv.orig_le inv.fresh
    refine ⟨ys, by simp [remap, hr, hrec], ?_⟩
    have ho := outSpace_of_layout I sp _ ((x.items.drop (x.numImp - x.numImpAdded)).filter keepLoc ++
      (x.items.take (x.numImp - x.numImpAdded)).filter keepLoc) hA
      (fun b hb => by rcases List.mem_append.mp hb with hb | hb <;> exact (List.mem_filter.mp hb).2) inv.agree
    rw [← closed_layout _ _ inv.orig_le, ← hys] at ho
    refine ⟨ho.1, ho.2, fun y hy => by simpa using (List.mem_filter.mp (hperm.subset hy)).2, hlive, fun i h => ?_⟩
    cases hx : x.items[i]? with
    | none => exact hoob i (List.getElem?_eq_none_iff.mp hx)
    | some item => exact hdead i item hx (h item hx)
  · have hr' : x.recalc = false := by simpa using hr
    have hset := inv.settled hr'
    refine ⟨x.items, by simp [remap, hr'], ?_⟩
    have ho := outSpace_of_layout I sp _ (x.items.filter keepLoc) hA (fun b hb => (List.mem_filter.mp hb).2) inv.agree
    rw [← hset] at ho
    have hnd : ∀ y ∈ x.items, y.del = false := by
      intro y hy
      rw [hset] at hy
      rcases List.mem_append.mp hy with h | h
      · exact (keepImp_iff.mp (List.mem_filter.mp ((sortImports_perm _).subset h)).2).2
      · exact (keepLoc_iff.mp (List.mem_filter.mp h).2).2
    refine ⟨ho.1, ho.2, hnd, fun i item h1 _ => ⟨i, mapping_id_of_fresh _ inv.fresh i item h1, h1⟩, fun i h => ?_⟩
    refine mapping_none _ _ (fun y hy hyi => ?_)
    obtain ⟨j, hj⟩ := List.getElem?_of_mem hy
    have : j = i := by rw [← inv.fresh j y hj]; exact hyi
    subst this
    have := h y hj
    rw [hnd y hy] at this; cases this

theorem idsFreshB_sound (xs : List Item) (h : idsFreshB xs = true) : IdsFresh xs := by
  intro i x hx
  unfold idsFreshB at h
  rw [List.all_eq_true] at h
  have hmem : (x, i) ∈ xs.zipIdx := by
    rw [List.mem_zipIdx_iff_getElem?]; simpa using hx
  simpa using h (x, i) hmem

theorem spaceInvB_sound (x : Space) (I : List ImpEntry) (sp : Sp) (h : spaceInvB x I sp = true) : SpaceInv x I sp := by
  simp only [spaceInvB, Bool.and_eq_true, Bool.or_eq_true, decide_eq_true_eq, beq_iff_eq] at h
  obtain ⟨⟨⟨h1, h2⟩, h3⟩, h4⟩ := h
  refine ⟨idsFreshB_sound _ h1, h2, h3, ?_⟩
  intro hr
  rcases h4 with h4 | h4
  · rw [hr] at h4; cases h4
  · exact h4

end Orca.Edit
