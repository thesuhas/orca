import Orca.Model.Comp
/-!
M10, the component tree. Ownership: from the equations of `loop`, event by event, what a nested item streams is passed over below
depth 0 (`skipI` / `skipL`) and at depth 0 the own sections and the children's starts are recorded (`loop_owns`). The nesting bound:
`parseDepthI` / `parseDepthL` in closed form.
-/
namespace Orca.Comp

theorem loop_zero_payload (id : Nat) (es : List Ev) : loop 0 (.payload id :: es) = .payload id :: loop 0 es := by
  simp [loop]

theorem loop_zero_start (e : Ev) (he : (∃ i, e = .moduleStart i) ∨ (∃ i, e = .componentStart i)) (es : List Ev) :
    loop 0 (e :: es) = e :: loop 1 es := by
  rcases he with ⟨i, rfl⟩ | ⟨i, rfl⟩ <;> simp [loop]

theorem loop_start_skip (d : Nat) (hd : d > 0) (e : Ev) (he : (∃ i, e = .moduleStart i) ∨ (∃ i, e = .componentStart i)) (es : List Ev) :
    loop d (e :: es) = loop (d + 1) es := by
  rcases he with ⟨i, rfl⟩ | ⟨i, rfl⟩ <;> simp [loop, hd]

theorem loop_payloads (d : Nat) (hd : d > 0) (ps : List Nat) (es : List Ev) :
    loop d (ps.map Ev.payload ++ es) = loop d es := by
  induction ps with
  | nil => rfl
  | cons p ps ih => simpa [loop, hd] using ih

theorem loop_end (d : Nat) (es : List Ev) : loop (d + 1) (Ev.end_ :: es) = loop d es := by
  cases d <;> simp [loop]

mutual
/-- everything a nested item streams is skipped, and the stack is back where it was -/
theorem skipI (d : Nat) (hd : d ≥ 1) : ∀ (i : Item) (rest : List Ev), loop d (streamI i ++ rest) = loop d rest
  | .section_ id, rest => by
    simpa [streamI] using loop_payloads d hd [id] rest
  | .module id ps, rest => by
    simp only [streamI, List.cons_append, List.append_assoc]
    rw [loop_start_skip d hd _ (.inl ⟨id, rfl⟩), loop_payloads (d + 1) (by omega)]
    exact loop_end d rest
  | .component id items, rest => by
    simp only [streamI, List.cons_append, List.append_assoc]
    rw [loop_start_skip d hd _ (.inr ⟨id, rfl⟩), skipL (d + 1) (by omega) items]
    exact loop_end d rest
theorem skipL (d : Nat) (hd : d ≥ 1) : ∀ (is : List Item) (rest : List Ev), loop d (streamL is ++ rest) = loop d rest
  | [], rest => by simp [streamL]
  | i :: is, rest => by
    simp only [streamL, List.append_assoc]
    rw [skipI d hd i, skipL d hd is]
end

theorem loop_owns : ∀ (items : List Item) (rest : List Ev), loop 0 (streamL items ++ rest) = items.map ownEv ++ loop 0 rest
  | [], rest => by simp [streamL]
  | .section_ id :: is, rest => by
    simp only [streamL, streamI, List.cons_append, List.nil_append, List.map_cons, ownEv]
    rw [loop_zero_payload, loop_owns is rest]
  | .module id ps :: is, rest => by
    simp only [streamL, streamI, List.cons_append, List.append_assoc, List.map_cons, ownEv, List.nil_append]
    rw [loop_zero_start _ (.inl ⟨id, rfl⟩), loop_payloads 1 (by omega), loop_end 0, loop_owns is rest]
  | .component id inner :: is, rest => by
    simp only [streamL, streamI, List.cons_append, List.append_assoc, List.map_cons, ownEv, List.nil_append]
    rw [loop_zero_start _ (.inr ⟨id, rfl⟩), skipL 1 (by omega) inner, loop_end 0, loop_owns is rest]

mutual
theorem parseDepthI_eq (limit : Nat) : ∀ (i : Item) (depth : Nat), depth ≤ limit →
    parseDepthI limit depth i = if depth + nestI i ≤ limit then some (depth + nestI i) else none
  | .section_ _, depth, hd => by simp [parseDepthI, nestI, hd]
  | .module _ _, depth, hd => by simp [parseDepthI, nestI, hd]
  | .component id items, depth, hd => by
    -- `rw`, not `simp only [nestI]`: that would rewrite the condition of the `if` and leave its `Decidable` instance behind
    rw [parseDepthI, show nestI (.component id items) = nestL items + 1 by rw [nestI]]
    by_cases hge : depth ≥ limit
    · rw [if_pos hge, if_neg (by omega)]
    · rw [if_neg hge, parseDepthL_eq limit items (depth + 1) (by omega)]
      simp only [Nat.add_assoc, Nat.add_comm 1]
theorem parseDepthL_eq (limit : Nat) : ∀ (is : List Item) (depth : Nat), depth ≤ limit →
    parseDepthL limit depth is = if depth + nestL is ≤ limit then some (depth + nestL is) else none
  | [], depth, hd => by simp [parseDepthL, nestL, hd]
  | i :: is, depth, hd => by
    rw [parseDepthL, show nestL (i :: is) = max (nestI i) (nestL is) by rw [nestL],
      parseDepthI_eq limit i depth hd, parseDepthL_eq limit is depth hd]
    by_cases h1 : depth + nestI i ≤ limit <;> by_cases h2 : depth + nestL is ≤ limit <;>
      simp only [h1, h2, if_true, if_false]
    · rw [if_pos (by omega)]; congr 1; omega
    all_goals rw [if_neg (by omega)]
end

theorem parseDepthI_spec (limit : Nat) : ∀ (i : Item) (depth : Nat), depth ≤ limit →
    (depth + nestI i ≤ limit → parseDepthI limit depth i = some (depth + nestI i))
    ∧ (limit < depth + nestI i → parseDepthI limit depth i = none) := by
  intro i depth hd
  rw [parseDepthI_eq limit i depth hd]
  exact ⟨fun h => if_pos h, fun h => if_neg (by omega)⟩

end Orca.Comp
