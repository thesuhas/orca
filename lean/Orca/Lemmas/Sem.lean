import Orca.Model.Sem
/-! The interpreter `run` / `runOne` through its equations: one per instruction form, stated with the combinators
    `Out.andThen` (sequencing), `leaveBlock`, `loopOut`, `callRet`. The proofs about the interpreter (more fuel, erasure,
    the simulations) use these and the lemmas of the combinators; none unfolds `runOne` again. -/
namespace Orca.Sem

@[simp] theorem St.fire_nil (s : St) : s.fire [] = s := by simp [St.fire]
@[simp] theorem St.fire_fire (s : St) (a b : List Nat) : (s.fire a).fire b = s.fire (a ++ b) := by
  simp [St.fire, List.append_assoc]
@[simp] theorem St.fire_stack (s : St) (a : List Nat) : (s.fire a).stack = s.stack := rfl

@[simp] theorem ok_normal (s : St) : (Out.normal s).ok = true := rfl
@[simp] theorem ok_br (n p) (s : St) : (Out.br n p s).ok = true := rfl
@[simp] theorem ok_ret (s : St) : (Out.ret s).ok = true := rfl
@[simp] theorem ok_trap (s : St) : (Out.trap s).ok = true := rfl
@[simp] theorem ok_stuck (w : String) : (Out.stuck w).ok = false := rfl

def St.mon (s : St) (m : Bool) (ps : List Nat) : St := if m then s.fire ps else s

@[simp] theorem St.mon_true (s : St) (ps : List Nat) : s.mon true ps = s.fire ps := rfl
@[simp] theorem St.mon_false (s : St) (ps : List Nat) : s.mon false ps = s := rfl
@[simp] theorem St.mon_core (s : St) (m : Bool) (ps : List Nat) : (s.mon m ps).core = s.core := by cases m <;> rfl

def Out.onNormal (g : St → St) : Out → Out
  | .normal s => .normal (g s)
  | o => o

def Out.andThen (o : Out) (k : St → Out) : Out :=
  match o with
  | .normal s => k s
  | o => o

/-- what a loop turns the outcome of its body into; `again` is the next iteration, from the state the branch carries -/
def loopOut (m : Bool) (ann : Ann) (again : St → Out) : Out → Out
  | .normal s => .normal ((s.mon m ann.exit).mon m ann.after)
  | .br 0 _ s => again s
  | .br (n + 1) pd s => .br n pd s
  | o => o

@[simp] theorem onNormal_ok (g : St → St) (o : Out) : (o.onNormal g).ok = o.ok := by cases o <;> rfl

theorem andThen_congr {o : Out} {k k' : St → Out} (h : ∀ s, o = .normal s → k' s = k s) : o.andThen k' = o.andThen k := by
  cases o <;> first | rfl | exact h _ rfl

theorem loopOut_congr {m ann} {o : Out} {k k' : St → Out} (h : ∀ pd s, o = .br 0 pd s → k' s = k s) :
    loopOut m ann k' o = loopOut m ann k o := by
  cases o with
  | br n pd s => cases n <;> first | rfl | exact h _ _ rfl
  | _ => rfl

theorem andThen_ok {o : Out} {k : St → Out} (h : (o.andThen k).ok = true) : o.ok = true := by
  cases o <;> first | rfl | exact h

theorem leaveBlock_ok {m ann base a x} : (leaveBlock m ann base a x).ok = x.ok := by
  cases x with
  | br n pd s => cases n <;> rfl
  | _ => rfl

theorem callRet_ok {m after s c x} (h : (callRet m after s c x).ok = true) : x.ok = true := by
  cases x <;> first | rfl | exact h

theorem loopOut_ok {m ann k x} (h : (loopOut m ann k x).ok = true) : x.ok = true := by
  cases x <;> first | rfl | exact h

def FOut.ok : FOut → Bool
  | .stuck _ => false
  | _ => true

theorem finish_ok {m F base o} (h : (finish m F base o).ok = true) : o.ok = true := by
  cases o with
  | stuck w => cases h
  | _ => rfl

theorem loopOut_eq_leaveBlock {m ann k o} (base : List Nat) (a : Nat) (h : ∀ pd s, o ≠ .br 0 pd s) :
    loopOut m ann k o = leaveBlock m ann base a o := by
  cases o with
  | br n pd s => cases n <;> first | rfl | exact (h _ _ rfl).elim
  | normal s => cases m <;> rfl
  | _ => rfl

theorem leaveBlock_mon (m : Bool) (ann : Ann) (base : List Nat) (a : Nat) (o : Out) :
    leaveBlock m ann base a o =
      match o with
      | .normal s => .normal ((s.mon m ann.exit).mon m ann.after)
      | .br 0 pd s => .normal (((s.exitTo base a).mon m (saPs pd)).mon m ann.after)
      | .br (n + 1) pd s => .br n pd s
      | o => o := by
  cases o with
  | br n pd s => cases n <;> cases m <;> rfl
  | _ => cases m <;> rfl

theorem callRet_mon (m : Bool) (after : List Nat) (s : St) (c : Callee) (o : Out) :
    callRet m after s c o = (callRet false [] s c o).onNormal (·.mon m after) := by
  cases o with
  | br n pd r => cases n <;> rfl
  | _ => rfl

section
variable {fns : List Callee} {m : Bool} {fx : List Nat} {f : Nat} {s : St}

theorem run_zero (p : List Instr) : run fns m fx 0 p s = .stuck "fuel" := by rw [run]
theorem run_nil : run fns m fx (f + 1) [] s = .normal s := rfl
theorem run_cons (i : Instr) (is : List Instr) :
    run fns m fx (f + 1) (i :: is) s = (runOne fns m fx f i s).andThen (run fns m fx f is) := rfl

theorem runOne_zero (i : Instr) : runOne fns m fx 0 i s = .stuck "fuel" := by rw [runOne]

/-- what a call of function `g` gives the caller; the callee is not instrumented and runs with fuel `f` -/
def callOut (fns : List Callee) (f g : Nat) (s : St) : Out :=
  match fns[g]? with
  | none => .stuck s!"call {g}"
  | some c =>
    if s.stack.length < c.nparams then .stuck "call args" else
    if c.log then .normal { s with stack := s.stack.drop c.nparams, trace := s.trace ++ (s.stack.take c.nparams).reverse }
    else callRet false [] s c (run fns false [] f c.body
          { s with stack := [], locals := (s.stack.take c.nparams).reverse ++ List.replicate c.nlocals 0 })

/-- two calls of the same function from states with the same stack go the same way -/
theorem callOut_cases {fns : List Callee} {f f' g : Nat} {s s' : St} (hst : s'.stack = s.stack) {motive : Out → Out → Prop}
    (stuck : ∀ w, motive (.stuck w) (.stuck w))
    (log : ∀ c : Callee, motive
      (.normal { s with stack := s.stack.drop c.nparams, trace := s.trace ++ (s.stack.take c.nparams).reverse })
      (.normal { s' with stack := s.stack.drop c.nparams, trace := s'.trace ++ (s.stack.take c.nparams).reverse }))
    (call : ∀ c : Callee, motive
      (callRet false [] s c (run fns false [] f c.body
        { s with stack := [], locals := (s.stack.take c.nparams).reverse ++ List.replicate c.nlocals 0 }))
      (callRet false [] s' c (run fns false [] f' c.body
        { s' with stack := [], locals := (s.stack.take c.nparams).reverse ++ List.replicate c.nlocals 0 }))) :
    motive (callOut fns f g s) (callOut fns f' g s') := by
  unfold callOut
  rw [hst]
  cases fns[g]? with
  | none => exact stuck _
  | some c =>
    dsimp only
    by_cases h1 : s.stack.length < c.nparams
    · rw [if_pos h1, if_pos h1]; exact stuck _
    · rw [if_neg h1, if_neg h1]
      by_cases h2 : c.log = true
      · rw [if_pos h2, if_pos h2]; exact log c
      · rw [if_neg h2, if_neg h2]; exact call c

theorem runOne_bare (k : OpK) :
    runOne fns false fx (f + 1) (.op [] [] k) s =
      match stepTok k s with
      | .ok s' => .normal s'
      | .trap => .trap s
      | .stuck => .stuck "op"
      | .call g => callOut fns f g s := rfl

theorem runOne_op (b a : List Nat) (k : OpK) :
    runOne fns m fx (f + 1) (.op b a k) s
      = (runOne fns false [] (f + 1) (.op [] [] k) (s.mon m b)).onNormal (·.mon m a) := by
  rw [runOne_bare, runOne]
  unfold St.mon
  generalize (if m = true then s.fire b else s) = s1
  cases stepTok k s1 with
  | call g =>
    dsimp only [callOut]
    cases fns[g]? with
    | none => rfl
    | some c =>
      dsimp only
      by_cases h1 : s1.stack.length < c.nparams
      · rw [if_pos h1, if_pos h1]; rfl
      · rw [if_neg h1, if_neg h1]
        by_cases h2 : c.log = true
        · rw [if_pos h2, if_pos h2]; rfl
        · rw [if_neg h2, if_neg h2]; exact callRet_mon ..
  | _ => rfl

theorem callRet_ne_br {m after s c o n pd r} : callRet m after s c o ≠ .br n pd r := by
  cases o with
  | br k _ _ => cases k <;> exact Out.noConfusion
  | _ => exact Out.noConfusion

theorem runOne_bare_ne_br (f : Nat) (t : OpK) (s : St) (n : Nat) (pd : Option SA) (r : St) :
    runOne fns false fx (f + 1) (.op [] [] t) s ≠ .br n pd r := by
  rw [runOne_bare]
  cases stepTok t s with
  | call g =>
    exact callOut_cases (motive := fun o _ => o ≠ .br n pd r) (f' := f) (s' := s) rfl (fun _ => Out.noConfusion) (fun _ => Out.noConfusion)
      fun _ => callRet_ne_br
  | _ => exact Out.noConfusion

theorem runOne_probe (id : Nat) : runOne fns m fx (f + 1) (.probe id) s = .normal (s.fire [id]) := rfl

theorem runOne_block (b : List Nat) (ann : Ann) (a : Nat) (tk : Tok) (body : List Instr) :
    runOne fns m fx (f + 1) (.block b ann a tk body) s
      = leaveBlock m ann s.stack a (run fns m fx f body ((s.mon m b).mon m ann.entry)) := by
  cases m <;> rfl

theorem runOne_loop (b : List Nat) (ann : Ann) (tk : Tok) (body : List Instr) :
    runOne fns m fx (f + 1) (.loop b ann tk body) s
      = loopOut m ann (fun s' => runOne fns m fx f (.loop [] ann tk body) { s' with stack := s.stack })
          (run fns m fx f body ((s.mon m b).mon m ann.entry)) := by
  cases m <;> rfl

theorem runOne_ite {b : List Nat} {annT annE : Ann} {a : Nat} {tk : Tok} {t e : List Instr} {he : Bool} {v : Nat} {st : List Nat}
    (hs : s.stack = v :: st) :
    runOne fns m fx (f + 1) (.ite b annT annE a tk t e he) s
      = leaveBlock m { (if v ≠ 0 then annT else annE) with after := annT.after ++ annE.after } st a
          (run fns m fx f (if v ≠ 0 then t else e)
            (({ s.mon m b with stack := st } : St).mon m (if v ≠ 0 then annT else annE).entry)) := by
  obtain ⟨stack, _, _, _, _⟩ := s
  subst hs
  by_cases hv : v ≠ 0
  · rw [if_pos hv, if_pos hv]; cases m <;> exact if_pos hv
  · rw [if_neg hv, if_neg hv]; cases m <;> exact if_neg hv

theorem runOne_ite_nil {b : List Nat} {annT annE : Ann} {a : Nat} {tk : Tok} {t e : List Instr} {he : Bool} (hs : s.stack = []) :
    runOne fns m fx (f + 1) (.ite b annT annE a tk t e he) s = .stuck "if" := by
  obtain ⟨stack, _, _, _, _⟩ := s
  subst hs
  cases m <;> rfl

theorem runOne_br (b a : List Nat) (sa : Option SA) (n : Nat) :
    runOne fns m fx (f + 1) (.br b a sa n) s = .br n (if m then sa else none) (s.mon m b) := rfl

theorem runOne_brIf (b a : List Nat) (sa : Option SA) (n : Nat) :
    runOne fns m fx (f + 1) (.brIf b a sa n) s =
      match s.stack with
      | v :: st =>
        if v ≠ 0 then .br n (if m then sa else none) { s.mon m b with stack := st }
        else .normal ((({ s.mon m b with stack := st } : St).mon m a).mon m (saPs sa))
      | [] => .stuck "br_if" := by
  cases m <;> rfl

theorem runOne_brTable (b a : List Nat) (sa : Option SA) (ts : List Nat) (d : Nat) :
    runOne fns m fx (f + 1) (.brTable b a sa ts d) s =
      match s.stack with
      | v :: st => .br ((ts[v]?).getD d) (if m then sa else none) { s.mon m b with stack := st }
      | [] => .stuck "br_table" := by
  cases m <;> rfl

theorem runOne_ret (b a : List Nat) : runOne fns m fx (f + 1) (.ret b a) s = .ret ((s.mon m b).mon m fx) := by
  cases m <;> rfl

theorem runOne_unreachable (b a : List Nat) :
    runOne fns m fx (f + 1) (.unreachable b a) s = .trap ((s.mon m b).mon m fx) := by
  cases m <;> rfl

end

theorem run_fuel_succ (fns : List Callee) : ∀ (f : Nat) (m : Bool) (fx : List Nat),
    (∀ p s, (run fns m fx f p s).ok = true → run fns m fx (f + 1) p s = run fns m fx f p s)
    ∧ (∀ i s, (runOne fns m fx f i s).ok = true → runOne fns m fx (f + 1) i s = runOne fns m fx f i s) := by
  intro f
  induction f with
  | zero => exact fun m fx => ⟨fun p s h => by simp [run_zero] at h, fun i s h => by simp [runOne_zero] at h⟩
  | succ f ih =>
    intro m fx
    have ihL := fun m fx => (ih m fx).1
    have ihO := fun m fx => (ih m fx).2
    constructor
    · intro p s h
      cases p with
      | nil => rfl
      | cons i is =>
        rw [run_cons] at h ⊢
        rw [run_cons, ihO _ _ _ _ (andThen_ok h)]
        exact andThen_congr fun s' e => ihL _ _ _ _ (by rw [e] at h; exact h)
    · intro i s h
      cases i with
      | op b a k =>
        rw [runOne_op b a k (f := f + 1)]
        rw [runOne_op b a k, onNormal_ok] at h
        rw [runOne_op b a k]
        congr 1
        rw [runOne_bare] at h ⊢
        rw [runOne_bare]
        revert h
        -- only a call looks at the fuel
        cases stepTok k (s.mon m b) with
        | call g =>
          exact callOut_cases (motive := fun o' o => o.ok = true → o' = o) rfl (fun _ _ => rfl) (fun _ _ => rfl)
            fun c h => by rw [ihL _ _ _ _ (callRet_ok h)]
        | _ => exact fun _ => rfl
      | block b ann a tk body =>
        rw [runOne_block] at h ⊢
        rw [runOne_block, ihL _ _ _ _ (leaveBlock_ok ▸ h)]
      | loop b ann tk body =>
        rw [runOne_loop] at h ⊢
        rw [runOne_loop, ihL _ _ _ _ (loopOut_ok h)]
        exact loopOut_congr fun pd s' e => ihO _ _ _ _ (by rw [e] at h; exact h)
      | ite b annT annE a tk t e he =>
        cases hs : s.stack with
        | nil => rw [runOne_ite_nil hs, runOne_ite_nil hs]
        | cons v st =>
          rw [runOne_ite hs] at h ⊢
          rw [runOne_ite hs, ihL _ _ _ _ (leaveBlock_ok ▸ h)]
      | _ => rfl

end Orca.Sem
