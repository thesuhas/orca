import Orca.Lemmas.StackFull
/-!
Every function the injection API can build — from a function without instrumentation, by any sequence of API calls — is in the scope
of the complete stack machine (`PlainF` on every instruction).
-/
namespace Orca.Lower

def InScope (i : Instr) : Prop := PlainF i

theorem inScope_set (xs : List Instr) (idx : Nat) (y : Instr) (h : ∀ x ∈ xs, InScope x) (hy : InScope y) :
    ∀ z ∈ xs.set idx y, InScope z := by
  intro z hz
  rcases List.mem_or_eq_of_mem_set hz with h1 | h1
  · exact h z h1
  · subst h1; exact hy

theorem inScope_of_blockStyle {i : Instr} (hk : i.kind.isBlockStyle = true) : InScope i :=
  ⟨fun _ => hk, fun h => absurd (hk.symm.trans h) (by simp), fun h => absurd (hk.symm.trans h) (by simp)⟩

/-- `add_instr` keeps an instruction in scope: it panics where a special mode does not apply to the kind -/
theorem addInstr_inScope (i i' : Instr) (t : Tok) (sp : Bool) (h : InScope i) (ha : i.addInstr t = some (i', sp)) : InScope i' := by
  unfold Instr.addInstr at ha
  cases hm : i.mode with
  | none => simp [hm] at ha
  | some m =>
    cases m with
    | before | after | alternate =>
      all_goals
        simp only [hm, Option.some.injEq, Prod.mk.injEq] at ha
        obtain ⟨rfl, _⟩ := ha
        exact ⟨h.altOnly, h.only, h.semOnly⟩
    | semanticAfter =>
      simp only [hm] at ha
      split at ha
      · rename_i hk
        simp only [Option.some.injEq, Prod.mk.injEq] at ha
        obtain ⟨rfl, _⟩ := ha
        refine ⟨h.altOnly, h.only, fun hb hbr => ?_⟩
        simp only [Bool.or_eq_true] at hk
        rcases hk with hk | hk
        · rw [hb] at hk; cases hk
        · rw [hbr] at hk; cases hk
      · cases ha
    | blockEntry | blockExit | blockAlt =>
      all_goals
        simp only [hm] at ha
        split at ha
        · rename_i hk
          simp only [Option.some.injEq, Prod.mk.injEq] at ha
          obtain ⟨rfl, _⟩ := ha
          exact inScope_of_blockStyle hk
        · cases ha

theorem apply_inScope (f f' : Func) (op : ApiOp) (h : ∀ x ∈ f.body, InScope x) (ha : apply f op = some f') :
    ∀ x ∈ f'.body, InScope x := by
  have hmode : ∀ (m : Option Mode) (x : Instr), InScope x → InScope { x with mode := m } :=
    fun _ _ hx => ⟨hx.altOnly, hx.only, hx.semOnly⟩
  -- `add_instr` on the addressed instruction, written back
  have hAt : ∀ (f f' : Func) (idx : Nat) (t : Tok), (∀ x ∈ f.body, InScope x) → apply f (.addInstrAt idx t) = some f' →
      ∀ x ∈ f'.body, InScope x := by
    intro f f' idx t h ha
    obtain ⟨x, i', sp, hx, hai, hb, -⟩ := addInstrAt_spec f f' idx t ha
    rw [hb]
    exact inScope_set _ _ i' h (addInstr_inScope _ i' t sp (h x (List.mem_of_getElem? hx)) hai)
  have hSet : ∀ (f1 : Func) (idx : Nat) (m : Mode), apply f (.setMode idx m) = some f1 → ∀ x ∈ f1.body, InScope x := by
    intro f1 idx m h1
    obtain ⟨_, -, rfl⟩ := setMode_spec f f1 idx m h1
    exact forall_mem_modifyAt h _ (hmode _)
  cases op with
  | setFMode m => cases ha; exact h
  | finishFunc => cases ha; exact h
  | setMode idx m => exact hSet f' idx m ha
  | addInstrAt idx t => exact hAt f f' idx t h ha
  | inject idx t =>
    cases hf : f.fmode with
    | none => exact hAt f f' idx t h (inject_eq_addInstrAt f idx t hf ▸ ha)
    | some fm => cases fm <;> simp only [apply, hf, Option.some.injEq] at ha <;> subst ha <;> exact h
  | injectAtRaw idx m t =>
    rw [injectAtRaw_eq] at ha
    obtain ⟨f1, h1, h2⟩ := Option.bind_eq_some_iff.mp ha
    exact hAt f1 f' idx t (hSet f1 idx m h1) h2
  | emptyAlt idx =>
    simp only [apply] at ha
    split at ha
    · cases ha; exact forall_mem_modifyAt h _ (fun _ hx => ⟨hx.altOnly, hx.only, hx.semOnly⟩)
    · cases ha
  | clear idx m =>
    simp only [apply] at ha
    split at ha
    · cases ha
      refine forall_mem_modifyAt h _ (fun x hx => ?_)
      obtain ⟨h2, h3, h4⟩ := hx
      cases m
      · exact ⟨h2, h3, h4⟩
      · exact ⟨h2, h3, h4⟩
      · exact ⟨h2, h3, h4⟩
      · exact ⟨h2, h3, fun _ _ => rfl⟩
      · exact ⟨h2, fun hb => ⟨rfl, (h3 hb).2⟩, h4⟩
      · exact ⟨h2, fun hb => ⟨(h3 hb).1, rfl⟩, h4⟩
      · exact ⟨fun hh => by simp at hh, h3, h4⟩
    · cases ha
  | emptyBlockAlt idx =>
    simp only [apply] at ha
    split at ha
    · rename_i x hx
      split at ha
      · rename_i hk
        cases ha
        intro y hy
        rw [modifyAt, hx] at hy
        exact inScope_set _ _ { x with blockAlt := some [] } h (inScope_of_blockStyle hk) y hy
      · cases ha
    · cases ha

theorem applyAll_inScope : ∀ (ops : List ApiOp) (f f' : Func), (∀ x ∈ f.body, InScope x) →
    applyAll f ops = some f' → ∀ x ∈ f'.body, InScope x := by
  intro ops
  induction ops with
  | nil => intro f f' h ha; simp only [applyAll, Option.some.injEq] at ha; subst ha; exact h
  | cons op ops ih =>
    intro f f' h ha
    simp only [applyAll] at ha
    cases h1 : apply f op with
    | none => simp [h1] at ha
    | some f1 =>
      simp only [h1, Option.bind_some] at ha
      exact ih f1 f' (apply_inScope f f1 op h h1) ha

/-- an instruction of a function as parsed: no special instrumentation on it -/
def Pristine (i : Instr) : Prop :=
  i.semAfter = [] ∧ i.blockEntry = [] ∧ i.blockExit = [] ∧ i.blockAlt = none

theorem Pristine.inScope {i : Instr} (h : Pristine i) : InScope i := by
  obtain ⟨h3, h4, h5, h6⟩ := h
  exact ⟨by simp [h6], fun _ => ⟨h4, h5⟩, fun _ _ => h3⟩

end Orca.Lower
