import Orca.Gen.ValTypes
import Orca.Gen.ConstExpr
/-! facts about the regenerated conversion tables -/
namespace Orca.Gen

/-- the value types the IR represents faithfully: numeric and vector types, unshared abstract references of either
    nullability (continuation types only non-nullable), references to a type of the module -/
def represented : VT → Bool
  | .i32 | .i64 | .f32 | .f64 | .v128 => true
  | .ref nullable shared h => !shared && !(nullable && (h == .Cont || h == .NoCont))
  | .refModule _ _ => true
  | .refRecGroup _ _ => false

theorem valtype_roundtrip : ∀ v : VT, represented v = true → (fromVal v).bind toEnc = some v := by
  intro v hv
  cases v with
  | ref n s h =>
    cases s with
    | true => simp [represented] at hv
    | false => cases n <;> cases h <;> first | rfl | (simp [represented] at hv)
  | refModule n i => rfl
  | refRecGroup n i => simp [represented] at hv
  | _ => rfl

/-- `UnpackedIndex::Id`, the only panicking arm of the conversion, cannot come out of a binary -/
theorem fromVal_total : ∀ v : VT, (fromVal v).isSome = true := by
  intro v
  cases v with
  | ref n s h => cases n <;> cases h <;> rfl
  | _ => rfl

/-- the two conversions IR → wire (to wasm-encoder for emission, to wasmparser for block types, added globals and
    imports) agree on every `DataType` both are defined on, up to the kind of concrete index -/
theorem toParser_agrees : ∀ d : DT, (match d with | .RecGroup _ | .CoreTypeId _ => True | _ => toParser d = toEnc d) := by
  intro d; cases d <;> first | exact rfl | exact trivial

/-- which conversion of `eval` is undone by which conversion of `to_wasmencoder_type` -/
def inverse : CConv → CConv → Bool
  | .same, .same | .fromBits32, .ieee32 | .fromBits64, .ieee64 | .leBytes128, .asI128 => true
  | _, _ => false

theorem constexpr_roundtrip :
    evalTable.all (fun r => (encTable r.2.1).1 == r.1 && inverse r.2.2 (encTable r.2.1).2) = true := by decide +kernel

end Orca.Gen
