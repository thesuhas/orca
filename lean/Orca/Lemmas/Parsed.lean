import Orca.Lemmas.Preserve
/-!
The state the parser builds satisfies the state invariant — for **every** import list and every number of local entities, not
only for the modules a run happens to generate. `Module::parse` fills each index-space vector with the imported entities of the
kind in import-section order, then the local ones; stored id = position; nothing is deleted; no re-indexing is pending.
-/
namespace Orca.Edit
open Orca.Reindex

def impPart (I : List ImpEntry) (sp : Sp) : List (Bool × Nat × Nat) := (liveEntries I sp).map (fun p => (true, p.2, p.1))
def locPart (locals : List Nat) : List (Bool × Nat × Nat) := locals.map (fun u => (false, u, 0))

/-- one index space as `Module::parse` leaves it -/
def parsedSpace (I : List ImpEntry) (sp : Sp) (locals : List Nat) : Space :=
  { items := mkItems 0 (impPart I sp ++ locPart locals), recalc := false, numImp := (liveEntries I sp).length, numImpAdded := 0 }

theorem mkItems_eq (A : List (Bool × Nat × Nat)) (k : Nat) : mkItems k A =
    (A.zipIdx k).map (fun p => { id := p.2, imp := p.1.1, del := false, uid := p.1.2.1, impId := p.1.2.2 }) := by
  induction A generalizing k with
  | nil => rfl
  | cons a A ih => simp [mkItems, ih]

theorem mkItems_append (A B : List (Bool × Nat × Nat)) (k : Nat) : mkItems k (A ++ B) = mkItems k A ++ mkItems (k + A.length) B := by
  simp [mkItems_eq, List.zipIdx_append]

theorem mkItems_length (A : List (Bool × Nat × Nat)) (k : Nat) : (mkItems k A).length = A.length := by
  simp [mkItems_eq]

theorem mkItems_get (A : List (Bool × Nat × Nat)) (k i : Nat) (x : Item) (h : (mkItems k A)[i]? = some x) : x.id = k + i := by
  simp only [mkItems_eq, List.getElem?_map, List.getElem?_zipIdx, Option.map_eq_some_iff] at h
  obtain ⟨_, ⟨_, _, rfl⟩, rfl⟩ := h
  rfl

theorem mkItems_mem {A : List (Bool × Nat × Nat)} {k : Nat} {x : Item} (h : x ∈ mkItems k A) :
    x.del = false ∧ (x.imp, x.uid, x.impId) ∈ A := by
  simp only [mkItems_eq, List.mem_map] at h
  obtain ⟨p, hp, rfl⟩ := h
  exact ⟨rfl, List.fst_mem_of_mem_zipIdx hp⟩

theorem mkItems_imp_key (L : List (Nat × Nat)) (k : Nat) : (mkItems k (L.map (fun p => (true, p.2, p.1)))).map key = L := by
  rw [mkItems_eq, List.zipIdx_map, List.map_map, List.map_map]
  exact (List.map_congr_left (fun _ _ => rfl)).trans (List.zipIdx_map_fst k L)

theorem keep_mkItems {A : List (Bool × Nat × Nat)} {imp : Bool} (hA : ∀ q ∈ A, q.1 = imp) (k : Nat) :
    ∀ x ∈ mkItems k A, keepImp x = imp ∧ keepLoc x = !imp := by
  intro x hx
  obtain ⟨hd, hm⟩ := mkItems_mem hx
  have : x.imp = imp := hA _ hm
  simp [keepImp, keepLoc, hd, this]

theorem parsed_filters (I : List ImpEntry) (sp : Sp) (locals : List Nat) :
    (parsedSpace I sp locals).items.filter keepImp = mkItems 0 (impPart I sp)
    ∧ (parsedSpace I sp locals).items.filter keepLoc = mkItems (0 + (impPart I sp).length) (locPart locals) := by
  have hi := keep_mkItems (A := impPart I sp) (imp := true)
    (fun q hq => by obtain ⟨_, _, rfl⟩ := List.mem_map.mp hq; rfl) 0
  have hl := keep_mkItems (A := locPart locals) (imp := false)
    (fun q hq => by obtain ⟨_, _, rfl⟩ := List.mem_map.mp hq; rfl) (0 + (impPart I sp).length)
  simp only [parsedSpace, mkItems_append, List.filter_append]
  constructor
  · rw [List.filter_eq_self.mpr (fun x hx => (hi x hx).1), List.filter_eq_nil_iff.mpr (fun x hx => by simp [(hl x hx).1]),
      List.append_nil]
  · rw [List.filter_eq_nil_iff.mpr (fun x hx => by simp [(hi x hx).2]), List.filter_eq_self.mpr (fun x hx => (hl x hx).2),
      List.nil_append]

theorem sortImports_sorted_id (A : List Item) (hs : (A.map key).Pairwise (fun a b => a.1 < b.1)) : sortImports A = A :=
  eq_of_perm_of_sorted (·.impId) (sortImports_perm A) (sortImports_sorted A) (by rw [List.pairwise_map] at hs; exact hs)

theorem sInv_parsedSpace (I : List ImpEntry) (sp : Sp) (locals : List Nat) : SInv (parsedSpace I sp locals) I sp := by
  obtain ⟨hfi, hfl⟩ := parsed_filters I sp locals
  have hkey : (mkItems 0 (impPart I sp)).map key = liveEntries I sp := mkItems_imp_key (liveEntries I sp) 0
  refine ⟨?_, ?_, ?_, ?_, ?_⟩
  · intro i x hx
    have := mkItems_get _ 0 i x hx
    omega
  · simp only [parsedSpace, mkItems_length, List.length_append, impPart, locPart, List.length_map]
    omega
  · rw [hfi, hkey]
  · intro _
    rw [hfi, hfl, sortImports_sorted_id]
    · simp [parsedSpace, mkItems_append]
    · rw [hkey]; exact liveEntries_sorted I sp
  · intro it hit _ hdel
    have := (mkItems_mem hit).1
    rw [this] at hdel; cases hdel

/-- the whole state after `Module::parse`: the three vectors over one import list; reference sites, exports, data are arbitrary -/
def parsedState (I : List ImpEntry) (lf lg lm : List Nat) (rest : St) : St :=
  { rest with f := parsedSpace I .F lf, g := parsedSpace I .G lg, m := parsedSpace I .M lm, imports := I }

theorem stInv_parsedState (I : List ImpEntry) (lf lg lm : List Nat) (rest : St) : StInv (parsedState I lf lg lm rest) :=
  ⟨sInv_parsedSpace I .F lf, sInv_parsedSpace I .G lg, sInv_parsedSpace I .M lm⟩

theorem liveEntriesB_eq (I : List ImpEntry) (sp : Sp) : liveEntriesB I sp = liveEntries I sp := rfl

theorem stInv_of_parsedStateB (s : St) (h : parsedStateB s = true) : StInv s := by
  simp only [parsedStateB, parsedShapeB, Bool.and_eq_true, beq_iff_eq, Bool.not_eq_true', List.all_eq_true] at h
  -- the `&&` tree of `parsedStateB`: (F && G) && M, then the import list; each space (((items && flag) && numImp) && numImpAdded)
  obtain ⟨⟨⟨⟨⟨⟨hf1, hf2⟩, hf3⟩, hf4⟩, ⟨⟨⟨hg1, hg2⟩, hg3⟩, hg4⟩⟩, ⟨⟨⟨hm1, hm2⟩, hm3⟩, hm4⟩⟩, _⟩ := h
  have mk : ∀ (x : Space) (sp : Sp) (locals : List Nat), x.items = parsedItems s.imports sp locals → x.recalc = false →
      x.numImp = (liveEntriesB s.imports sp).length → x.numImpAdded = 0 → x = parsedSpace s.imports sp locals := by
    intro x sp locals h1 h2 h3 h4
    cases x
    simp only [parsedSpace, Space.mk.injEq]
    -- the model's `parsedItems` unfolds to `mkItems 0 (impPart … ++ locPart …)` (`liveEntriesB` is `liveEntries`), as `h1` is used
    exact ⟨h1, h2, h3, h4⟩
  refine ⟨?_, ?_, ?_⟩
  · rw [mk s.f .F _ hf1 hf2 hf3 hf4]; exact sInv_parsedSpace _ _ _
  · rw [mk s.g .G _ hg1 hg2 hg3 hg4]; exact sInv_parsedSpace _ _ _
  · rw [mk s.m .M _ hm1 hm2 hm3 hm4]; exact sInv_parsedSpace _ _ _

end Orca.Edit
