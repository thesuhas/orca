import Orca.Model.Locals
import Orca.Lemmas.Runs
/-!
M6: `add_local` is `add_to_sections` with a run of one (`addLocal_decls`), so its effect on the declared locals is
`Orca.Comp.expandRuns_addToSections`; the returned index needs the invariant `Inv` between `num_locals` and the declarations.
-/
namespace Orca.Locals
open Orca.Comp

def Inv (s : LState) : Prop := s.numLocals = (expand s.decls).length

theorem parsed_inv (n : Nat) (d : Decls) : Inv (parsed n d) := rfl

theorem expand_eq (d : Decls) : expand d = expandRuns d := by
  induction d with
  | nil => rfl
  | cons p d ih => simp [expand, expandRuns, ih]

theorem addLocal_decls (s : LState) (ty : Nat) : (addLocal s ty).1.decls = addToSections s.decls ty 1 := by
  unfold addLocal addToSections
  cases h : s.decls.getLast? with
  | none => simp [List.getLast?_eq_none_iff.mp h]
  | some p => by_cases ht : p.2 = ty <;> simp [ht]

theorem addLocal_expand (s : LState) (ty : Nat) :
    expand (addLocal s ty).1.decls = expand s.decls ++ [ty] := by
  simp [expand_eq, addLocal_decls, expandRuns_addToSections]

theorem addLocal_index (s : LState) (ty : Nat) (h : Inv s) :
    (addLocal s ty).2 = s.nparams + (expand s.decls).length := by
  unfold Inv at h; simp [addLocal, h]

theorem addLocal_nparams (s : LState) (ty : Nat) : (addLocal s ty).1.nparams = s.nparams := rfl

theorem addLocal_inv (s : LState) (ty : Nat) (h : Inv s) : Inv (addLocal s ty).1 := by
  have he := addLocal_expand s ty
  unfold Inv at *
  rw [he]
  simp [addLocal, h]

theorem addLocals_spec (ts : List Nat) : ∀ (s : LState), Inv s →
    expand (addLocals s ts).1.decls = expand s.decls ++ ts
    ∧ (addLocals s ts).2 = (List.range ts.length).map (fun k => s.nparams + (expand s.decls).length + k)
    ∧ Inv (addLocals s ts).1 ∧ (addLocals s ts).1.nparams = s.nparams := by
  induction ts with
  | nil => intro s h; simp [addLocals, h]
  | cons t ts ih =>
    intro s h
    have h1 := addLocal_inv s t h
    obtain ⟨e, i, v, n⟩ := ih (addLocal s t).1 h1
    simp only [addLocals]
    refine ⟨?_, ?_, v, ?_⟩
    · rw [e, addLocal_expand]; simp
    · rw [i, addLocal_index s t h, addLocal_expand, addLocal_nparams]
      -- `range (n + 1) = 0 :: (range n).map (· + 1)`: the head is the index of `t`, and in the tail `(len + 1) + k = len + (k + 1)`
      simp only [List.length_cons, List.range_succ_eq_map, List.map_cons, List.map_map, Function.comp_def, List.length_append,
        List.length_nil, Nat.add_zero, Nat.add_assoc, Nat.add_comm 1]
    · rw [n, addLocal_nparams]

end Orca.Locals
