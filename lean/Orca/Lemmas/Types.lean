import Orca.Model.Types
/-!
M5: under the invariant `WF` the encoded section is `types` itself (`encoded_eq`) and `add_type` is exact and idempotent
(`addType_spec`). `ModuleTypes::new` stores for each type the smallest of its ids (`lookup_new`), whence order independence and `new_wf`.
-/
namespace Orca.Types

variable {τ : Type} [DecidableEq τ]

/-- `ordered`: the groups list the ids `0 .. n-1` in order, so the index of a type in the encoded section is its id -/
structure WF (s : TState τ) : Prop where
  sound : ∀ (t : τ) (id : Nat), lookup s.map t = some id → s.types[id]? = some t
  complete : ∀ (i : Nat) (t : τ), s.types[i]? = some t → (lookup s.map t).isSome = true
  ordered : emitted s = List.range s.types.length

theorem lookup_append (m m' : List (τ × Nat)) (u : τ) : lookup (m ++ m') u = (lookup m u).or (lookup m' u) := by
  induction m with
  | nil => simp [lookup]
  | cons p ps ih => by_cases hk : p.1 = u <;> simp [lookup, hk, ih]

theorem emitted_append (s : TState τ) (g : List Nat × Bool) :
    emitted { s with groups := s.groups ++ [g] } = emitted s ++ g.1 := by
  simp [emitted, List.flatMap_append]

theorem encoded_eq (s : TState τ) (h : WF s) : encoded s = s.types.map some := by
  simp only [encoded, h.ordered]
  apply List.ext_getElem? fun i => ?_
  by_cases hlt : i < s.types.length <;> simp [hlt]

theorem WF.push {s : TState τ} (h : WF s) (t : τ) :
    WF { types := s.types ++ [t], map := s.map ++ [(t, s.types.length)], groups := s.groups ++ [([s.types.length], false)] } where
  sound u id hu := by
    rw [lookup_append] at hu
    cases hlu : lookup s.map u with
    | some j =>
      obtain rfl : j = id := by simpa [hlu] using hu
      have hs := h.sound u j hlu
      simpa [List.getElem?_append_left (List.getElem?_eq_some_iff.mp hs).1] using hs
    | none =>
      by_cases htu : t = u <;> simp [hlu, lookup, htu] at hu
      subst hu htu; simp
  complete i u hi := by
    rw [lookup_append, Option.isSome_or]
    rw [List.getElem?_append] at hi
    split at hi
    · simp [h.complete i u hi]
    · obtain rfl : t = u := by
        cases hd : i - s.types.length <;> simp [hd] at hi
        exact hi
      simp [lookup]
  ordered := by
    show emitted { s with groups := s.groups ++ [([s.types.length], false)] } = _
    rw [emitted_append, h.ordered]; simp [List.range_succ]

theorem addType_spec (s : TState τ) (t : τ) (h : WF s) :
    let r := addType s t
    r.1.types[r.2]? = some t
    ∧ WF r.1
    ∧ (∀ i, i < s.types.length → r.1.types[i]? = s.types[i]?)
    ∧ (∃ ext, encoded r.1 = encoded s ++ ext ∧ r.1.types.length = s.types.length + ext.length)
    ∧ addType r.1 t = (r.1, r.2) := by
  simp only [addType]
  cases hl : lookup s.map t with
  | some id => exact ⟨h.sound t id hl, h, fun _ _ => rfl, ⟨[], by simp, by simp⟩, by simp [hl]⟩
  | none =>
    have hw := h.push t
    refine ⟨by simp, hw, fun i hi => List.getElem?_append_left hi, ⟨[some t], ?_, by simp⟩, ?_⟩
    · rw [encoded_eq _ hw, encoded_eq _ h]; simp
    · simp [lookup_append, hl, lookup]

theorem lookup_insertMin (m : List (τ × Nat)) (t u : τ) (id : Nat) :
    lookup (insertMin m t id) u = if t = u then (lookup m u).merge min (some id) else lookup m u := by
  induction m with
  | nil => by_cases htu : t = u <;> simp [lookup, insertMin, htu]
  | cons p ps ih =>
    obtain ⟨k, v⟩ := p
    by_cases hkt : k = t
    · subst hkt; by_cases hku : k = u <;> simp [lookup, insertMin, hku]
    · by_cases hku : k = u
      · subst hku; simp [lookup, insertMin, hkt, Ne.symm hkt]
      · simp [lookup, insertMin, hkt, hku, ih]

theorem min?_cons_merge (x : Nat) (xs : List Nat) : (x :: xs).min? = (some x).merge min xs.min? := by
  rw [List.min?_cons]; cases xs.min? <;> simp

theorem min?_perm {l1 l2 : List Nat} (h : l1.Perm l2) : l1.min? = l2.min? :=
  Option.ext fun m => by simp [List.min?_eq_some_iff, h.mem_iff]

def idsOf (types : List τ) (order : List Nat) (u : τ) : List Nat := order.filter (fun id => types[id]? = some u)

theorem buildMap_min (types : List τ) (u : τ) (order : List Nat) (m0 : List (τ × Nat)) :
    lookup (order.foldl (buildStep insertMin types) m0) u = (lookup m0 u).merge min (idsOf types order u).min? := by
  induction order generalizing m0 with
  | nil => simp [idsOf]
  | cons id rest ih =>
    rw [List.foldl_cons, ih, buildStep]
    cases hty : types[id]? with
    | none => simp [idsOf, hty]
    | some t =>
      by_cases htu : t = u
      · have : idsOf types (id :: rest) u = id :: idsOf types rest u := by simp [idsOf, hty, htu]
        rw [this, min?_cons_merge, lookup_insertMin, if_pos htu]
        cases lookup m0 u <;> cases (idsOf types rest u).min? <;> simp [Nat.min_assoc]
      · simp [idsOf, hty, htu, lookup_insertMin]

theorem lookup_new (groups : List (List Nat × Bool)) (types : List τ) (order : List Nat) (u : τ) :
    lookup (new groups types order).map u = (idsOf types order u).min? := by
  simp [new, buildMap, buildMap_min, lookup]

theorem new_order_independent (groups : List (List Nat × Bool)) (types : List τ) (o1 o2 : List Nat) (h : o1.Perm o2) (u : τ) :
    lookup (new groups types o1).map u = lookup (new groups types o2).map u := by
  rw [lookup_new, lookup_new]; exact min?_perm (h.filter _)

theorem new_wf (groups : List (List Nat × Bool)) (types : List τ) (order : List Nat)
    (hall : ∀ i, i < types.length → i ∈ order)
    (hgroups : groups.flatMap (·.1) = List.range types.length) :
    WF (new groups types order) where
  sound t id hl := by
    rw [lookup_new] at hl
    simpa [new] using (List.mem_filter.mp (List.min?_mem hl)).2
  complete i t hi := by
    rw [lookup_new, List.isSome_min?_iff]
    exact List.ne_nil_of_mem (List.mem_filter.mpr ⟨hall i (List.getElem?_eq_some_iff.mp hi).1, by simpa [new] using hi⟩)
  ordered := hgroups

/-- F3: with plain `HashMap::insert` (`insertMap`: `ModuleTypes::new` before /repo commit df2d151) the id stored for a type that
    occurs twice depends on the iteration order. -/
theorem old_new_order_dependent :
    lookup (buildMap insertMap [7, 7] [0, 1]) 7 = some 1 ∧ lookup (buildMap insertMap [7, 7] [1, 0]) 7 = some 0 := by
  decide +kernel

end Orca.Types
