import Orca.Model.Iter
/-!
M7: the client loop is treated once, for any `visit` / `next` (`clientLoop_eq_rest`). For the module iterator the step with content is
*landing* on the next function that is not skipped (`landed_spec`); the component iterator is the same one level up (`modItFor_spec`,
`nextModuleAux_spec`).
-/
namespace Orca.Iter

/-- `loop { report visit; if !next { break } }` -/
def clientLoop {σ α : Type} (visit : σ → Option α) (next : σ → σ × Bool) : Nat → σ → List α
  | fuel, s =>
    match visit s with
    | none => []
    | some v =>
      match fuel with
      | 0 => [v]
      | k + 1 => if (next s).2 then v :: clientLoop visit next k (next s).1 else [v]

section
variable {σ α : Type} {visit : σ → Option α} {next : σ → σ × Bool} {Inv : σ → Prop} {rest : σ → List α}

theorem clientLoop_eq_rest
    (hstep : ∀ s, Inv s → ∃ v, visit s = some v ∧
      if (next s).2 then Inv (next s).1 ∧ rest s = v :: rest (next s).1 else rest s = [v]) :
    ∀ (k : Nat) (s : σ), Inv s → (rest s).length ≤ k + 1 → clientLoop visit next k s = rest s := by
  intro k
  induction k with
  | zero =>
    intro s hs hlen
    obtain ⟨v, hv, h⟩ := hstep s hs
    unfold clientLoop; rw [hv]
    split at h
    · -- one visit of fuel, but the next state has something left: impossible
      obtain ⟨v', _, h'⟩ := hstep _ h.1
      have : (rest (next s).1).length ≠ 0 := by
        split at h'
        · simp [h'.2]
        · simp [h']
      rw [h.2, List.length_cons] at hlen; omega
    · exact h.symm
  | succ k ih =>
    intro s hs hlen
    obtain ⟨v, hv, h⟩ := hstep s hs
    unfold clientLoop; rw [hv]
    split at h
    · rename_i hb
      simp only [hb, if_true]
      rw [h.2, ih _ h.1 (by rw [h.2] at hlen; simpa using hlen)]
    · rename_i hb; simp [hb, h]

theorem clientLoop_eq_spec
    (hstep : ∀ s, Inv s → ∃ v, visit s = some v ∧
      if (next s).2 then Inv (next s).1 ∧ rest s = v :: rest (next s).1 else rest s = [v])
    {s : σ} {spec : List α} (h0 : (visit s = none ∧ spec = []) ∨ (Inv s ∧ rest s = spec))
    {k : Nat} (hk : spec.length ≤ k + 1) : clientLoop visit next k s = spec := by
  rcases h0 with ⟨hv, rfl⟩ | ⟨hs, rfl⟩
  · unfold clientLoop; rw [hv]
  · exact clientLoop_eq_rest hstep k s hs hk
end

theorem ModIt.trace_eq : ∀ (k : Nat) (it : ModIt), it.trace k = clientLoop ModIt.visit ModIt.next k it := by
  intro k
  induction k with
  | zero => intro it; unfold ModIt.trace clientLoop; cases it.visit <;> rfl
  | succ k ih => intro it; unfold ModIt.trace clientLoop; cases it.visit <;> simp [ih]

theorem CompIt.trace_eq : ∀ (k : Nat) (c : CompIt), c.trace k = clientLoop CompIt.visit CompIt.next k c := by
  intro k
  induction k with
  | zero => intro c; unfold CompIt.trace clientLoop; cases c.visit <;> rfl
  | succ k ih => intro c; unfold CompIt.trace clientLoop; cases c.visit <;> simp [ih]

theorem funcVisits_step (f n c : Nat) (h : c < n) :
    funcVisits f n c = (f, c, decide (c + 1 ≥ n)) :: funcVisits f n (c + 1) := by
  unfold funcVisits
  have : n - c = (n - (c + 1)) + 1 := by omega
  rw [this, List.range'_succ]
  simp

theorem funcVisits_done (f n c : Nat) (h : n ≤ c) : funcVisits f n c = [] := by
  simp [funcVisits, Nat.sub_eq_zero_of_le h]

theorem funcVisits_length (f n c : Nat) : (funcVisits f n c).length = n - c := by
  simp [funcVisits]

theorem visits_length_le (skip : List Nat) (l : List (Nat × Nat)) : (visits skip l).length ≤ totalInstrs l := by
  induction l with
  | nil => simp [visits, totalInstrs]
  | cons p l ih =>
    simp only [visits, totalInstrs, List.map_cons, List.sum_cons, List.length_append] at *
    split
    · simp; omega
    · rw [funcVisits_length]; omega

def AllNonEmpty (md : List (Nat × Nat)) : Prop := ∀ p ∈ md, 1 ≤ p.2

/-- what is still to be reported from a state -/
def ModIt.rest (it : ModIt) : List Visit :=
  match it.md[it.idx]? with
  | some p => funcVisits p.1 it.fit.n it.fit.curr ++ visits it.skip (it.md.drop (it.idx + 1))
  | none => []

/-- the iterator stands on an instruction -/
structure Good (it : ModIt) : Prop where
  nonEmpty : AllNonEmpty it.md
  inRange : it.fit.curr < it.fit.n
  at_ : ∃ f, it.md[it.idx]? = some (f, it.fit.n)

/-- where `new`, `reset` and `next_function` put the iterator: on the first function from `i` on that is not skipped -/
def landed (md : List (Nat × Nat)) (skip : List Nat) (i : Nat) : ModIt :=
  { idx := handleSkips md skip i, md := md, fit := ⟨0, numInstrsAt md (handleSkips md skip i)⟩, skip := skip }

theorem landed_spec {md : List (Nat × Nat)} (skip : List Nat) (hne : AllNonEmpty md) (i : Nat) :
    (landed md skip i).rest = visits skip (md.drop i)
    ∧ (landed md skip i).atEnd = !(md.drop i).any (fun p => !skipped skip p.1)
    ∧ if (landed md skip i).atEnd then visits skip (md.drop i) = [] else Good (landed md skip i) := by
  generalize hl : md.drop i = l
  induction l generalizing i with
  | nil =>
    have hi : md.length ≤ i := by simpa using hl
    simp [landed, ModIt.rest, ModIt.atEnd, handleSkips, hl, skipCount, visits, hi]
  | cons p l ih =>
    have hp : md[i]? = some p := by rw [← List.head?_drop, hl]; rfl
    have hi := (List.getElem?_eq_some_iff.mp hp).1
    have hl' : md.drop (i + 1) = l := by rw [← List.drop_drop, hl]; rfl
    by_cases hs : skipped skip p.1 = true
    · -- a skipped function: landing at `i` is landing at `i + 1`
      have : handleSkips md skip i = handleSkips md skip (i + 1) := by
        simp [handleSkips, hl, hl', skipCount, hs]; omega
      have e : landed md skip i = landed md skip (i + 1) := by simp only [landed, this]
      rw [e, show visits skip (p :: l) = visits skip l by simp [visits, hs],
        show (p :: l).any (fun p => !skipped skip p.1) = l.any (fun p => !skipped skip p.1) by simp [hs]]
      exact ih (i + 1) hl'
    · have hidx : handleSkips md skip i = i := by simp [handleSkips, hl, skipCount, hs]
      have hpos := hne p (List.mem_of_getElem? hp)
      have he : (landed md skip i).atEnd = false := by simp [landed, ModIt.atEnd, hidx, hi]
      have hg : Good (landed md skip i) :=
        ⟨hne, by simp [landed, hidx, numInstrsAt, hp]; omega, p.1, by simp [landed, hidx, numInstrsAt, hp]⟩
      exact ⟨by simp [landed, ModIt.rest, hidx, hp, numInstrsAt, hl', visits, hs], by simp [he, hs], by simpa [he] using hg⟩

theorem ModIt.nextFunction_eq_landed (it : ModIt) :
    it.nextFunction = if !it.hasNextFunction then (it, false) else (landed it.md it.skip (it.idx + 1), true) := rfl

theorem Good.step (it : ModIt) (g : Good it) : ∃ v, it.visit = some v ∧
    if it.next.2 then Good it.next.1 ∧ it.rest = v :: it.next.1.rest else it.rest = [v] := by
  obtain ⟨f, hf⟩ := g.at_
  have he : it.atEnd = false := by simp [ModIt.atEnd, (List.getElem?_eq_some_iff.mp hf).1]
  refine ⟨(f, it.fit.curr, decide (it.fit.curr + 1 ≥ it.fit.n)), by simp [ModIt.visit, he, ModIt.currLoc, hf, FuncIt.isEnd], ?_⟩
  have hstep := funcVisits_step f it.fit.n it.fit.curr g.inRange
  by_cases h1 : it.fit.curr + 1 < it.fit.n
  · -- inside the function
    have hn : it.fit.hasNext = true := by simp [FuncIt.hasNext, h1]
    simp only [ModIt.next, hn, if_true]
    exact ⟨⟨g.nonEmpty, h1, f, hf⟩, by simp [ModIt.rest, hf, hstep]⟩
  · -- the last instruction of the function: what is left is what `next_function` lands on
    have hn : it.fit.hasNext = false := by simp [FuncIt.hasNext, h1]
    have hr : it.rest = (f, it.fit.curr, decide (it.fit.curr + 1 ≥ it.fit.n)) :: visits it.skip (it.md.drop (it.idx + 1)) := by
      simp [ModIt.rest, hf, hstep, funcVisits_done f it.fit.n (it.fit.curr + 1) (by omega)]
    obtain ⟨hrest, hend, hcase⟩ := landed_spec it.skip g.nonEmpty (it.idx + 1)
    -- the `any` in `hend` is `has_next_function`, word for word
    rw [← ModIt.hasNextFunction] at hend
    rw [hend] at hcase
    simp only [ModIt.next, hn, Bool.false_eq_true, if_false, ModIt.nextFunction_eq_landed]
    cases h2 : it.hasNextFunction <;> simp only [h2, Bool.not_true, Bool.not_false, Bool.false_eq_true, if_true, if_false] at hcase ⊢
    · rw [hr, hcase]
    · exact ⟨hcase, by rw [hr, hrest]⟩

theorem ModIt.new_eq_landed (md : List (Nat × Nat)) (skip : List Nat) : ModIt.new md skip = landed md skip 0 := rfl

theorem ModIt.new_spec (md : List (Nat × Nat)) (skip : List Nat) (hne : AllNonEmpty md) :
    ((ModIt.new md skip).visit = none ∧ visits skip md = [])
    ∨ (Good (ModIt.new md skip) ∧ (ModIt.new md skip).rest = visits skip md) := by
  obtain ⟨hrest, _, hcase⟩ := landed_spec skip hne 0
  rw [List.drop_zero] at hrest hcase
  split at hcase
  · rename_i he; exact .inl ⟨by simp [ModIt.visit, ModIt.new_eq_landed, he], hcase⟩
  · exact .inr ⟨hcase, hrest⟩

theorem ModIt.trace_new (md : List (Nat × Nat)) (skip : List Nat) (hne : AllNonEmpty md) {k : Nat}
    (hk : (visits skip md).length ≤ k + 1) : (ModIt.new md skip).trace k = visits skip md := by
  rw [ModIt.trace_eq]; exact clientLoop_eq_spec Good.step (ModIt.new_spec md skip hne) hk

theorem ModIt.reset_eq_new (it : ModIt) : it.reset = ModIt.new it.md it.skip := rfl

theorem ModIt.next_md_skip (it : ModIt) : it.next.1.md = it.md ∧ it.next.1.skip = it.skip := by
  unfold ModIt.next ModIt.nextFunction
  split
  · simp
  · split <;> simp

theorem ModIt.currLoc_of_visit {it : ModIt} {v : Visit} (h : it.visit = some v) : it.currLoc = some v := by
  unfold ModIt.visit at h
  split at h
  · cases h
  · exact h

theorem ModIt.hasNext_eq (it : ModIt) : it.hasNext = it.next.2 := by
  unfold ModIt.next ModIt.hasNext ModIt.nextFunction
  cases it.fit.hasNext <;> cases it.hasNextFunction <;> rfl

def AllModsNonEmpty (mds : List (List (Nat × Nat))) : Prop := ∀ md ∈ mds, AllNonEmpty md

theorem getD_nonEmpty {mds : List (List (Nat × Nat))} (h : AllModsNonEmpty mds) (m : Nat) :
    AllNonEmpty (mds[m]?.getD []) := by
  cases hm : mds[m]? with
  | none => intro p hp; simp at hp
  | some md => exact h md (List.mem_of_getElem? hm)

theorem modItFor_eq_landed (mds : List (List (Nat × Nat))) (skips : List (List Nat)) (m : Nat) :
    modItFor mds skips m = landed (mds[m]?.getD []) (skips[m]?.getD []) 0 := rfl

theorem modItFor_spec {mds : List (List (Nat × Nat))} (skips : List (List Nat)) (hne : AllModsNonEmpty mds) {m : Nat}
    (h : m < mds.length) :
    if (modItFor mds skips m).atEnd then
      compVisitsFrom skips m (mds.drop m) = compVisitsFrom skips (m + 1) (mds.drop (m + 1))
    else Good (modItFor mds skips m) ∧ compVisitsFrom skips m (mds.drop m)
      = (modItFor mds skips m).rest.map (fun v => (m, v)) ++ compVisitsFrom skips (m + 1) (mds.drop (m + 1)) := by
  obtain ⟨hr, _, hm⟩ := landed_spec (skips[m]?.getD []) (getD_nonEmpty hne m) 0
  rw [← modItFor_eq_landed, List.drop_zero] at hr hm
  have hsplit : compVisitsFrom skips m (mds.drop m)
      = (modItFor mds skips m).rest.map (fun v => (m, v)) ++ compVisitsFrom skips (m + 1) (mds.drop (m + 1)) := by
    rw [List.drop_eq_getElem_cons h, hr]; simp [compVisitsFrom, List.getElem?_eq_getElem h]
  by_cases he : (modItFor mds skips m).atEnd = true
  · rw [if_pos he] at hm ⊢; rw [hsplit, hr, hm]; rfl
  · rw [if_neg he] at hm ⊢; exact ⟨hm, hsplit⟩

def CompIt.rest (c : CompIt) : List (Nat × Visit) :=
  c.mit.rest.map (fun v => (c.cur, v)) ++ compVisitsFrom c.skips (c.cur + 1) (c.mds.drop (c.cur + 1))

structure CGood (c : CompIt) : Prop where
  nonEmpty : AllModsNonEmpty c.mds
  inRange : c.cur < c.num
  num_eq : c.num = c.mds.length
  good : Good c.mit

theorem nextModuleAux_spec (mds : List (List (Nat × Nat))) (skips : List (List Nat)) (hne : AllModsNonEmpty mds) :
    ∀ (fuel cur : Nat) (mit : ModIt), mds.length - cur + 1 ≤ fuel → cur ≤ mds.length →
    let r := nextModuleAux mds skips mds.length fuel cur mit
    if r.2.2 then r.1 < mds.length ∧ Good r.2.1
        ∧ r.2.1.rest.map (fun v => (r.1, v)) ++ compVisitsFrom skips (r.1 + 1) (mds.drop (r.1 + 1))
            = compVisitsFrom skips (cur + 1) (mds.drop (cur + 1))
    else r.1 = mds.length ∧ compVisitsFrom skips (cur + 1) (mds.drop (cur + 1)) = [] := by
  intro fuel
  induction fuel with
  | zero => intro cur mit h; omega
  | succ k ih =>
    intro cur mit hfuel hle
    simp only [nextModuleAux]
    by_cases h2 : cur + 1 < mds.length
    · have h1 : cur < mds.length := by omega
      have hm := modItFor_spec skips hne h2
      simp only [h1, h2, if_true]
      cases he : (modItFor mds skips (cur + 1)).atEnd with
      | false =>
        rw [he] at hm
        simpa using ⟨h2, hm.1, hm.2.symm⟩
      | true =>
        -- an empty module: the loop goes on, and the specification loses nothing
        rw [he] at hm
        simp only [Bool.not_true, Bool.false_eq_true, if_false]
        rw [hm]; exact ih (cur + 1) (modItFor mds skips (cur + 1)) (by omega) (by omega)
    · have hdone : compVisitsFrom skips (cur + 1) (mds.drop (cur + 1)) = [] := by
        rw [List.drop_eq_nil_of_le (by omega)]; rfl
      by_cases h1 : cur < mds.length
      · -- the recursive call stops at once, with `(cur + 1, mit, false)`: by its first equation when the fuel `k` is 0, and
        -- otherwise because it sees `cur + 1 ≥ len`; `cases k` only exposes which equation of `nextModuleAux` applies
        simp only [h1, h2, if_true, if_false]
        cases k <;> simpa [nextModuleAux, h2] using ⟨by omega, hdone⟩
      · simpa [h1] using ⟨by omega, hdone⟩

theorem CompIt.nextModule_spec {c : CompIt} (hne : AllModsNonEmpty c.mds) (hnum : c.num = c.mds.length) (hle : c.cur ≤ c.num) :
    if c.nextModule.2 then CGood c.nextModule.1
        ∧ c.nextModule.1.rest = compVisitsFrom c.skips (c.cur + 1) (c.mds.drop (c.cur + 1))
    else c.nextModule.1.atEnd = true ∧ compVisitsFrom c.skips (c.cur + 1) (c.mds.drop (c.cur + 1)) = [] := by
  have hs := nextModuleAux_spec c.mds c.skips hne (c.num - c.cur + 1) c.cur c.mit (by rw [hnum]; omega)
    (by rw [← hnum]; exact hle)
  simp only [CompIt.nextModule, hnum] at hs ⊢
  split at hs
  · rename_i hb
    simp only [hb, if_true]
    exact ⟨⟨hne, hs.1, rfl, hs.2.1⟩, hs.2.2⟩
  · rename_i hb
    simpa [hb, CompIt.atEnd, hnum] using hs

theorem CGood.step (c : CompIt) (g : CGood c) : ∃ v, c.visit = some v ∧
    if c.next.2 then CGood c.next.1 ∧ c.rest = v :: c.next.1.rest else c.rest = [v] := by
  obtain ⟨v, hv, hstep⟩ := Good.step c.mit g.good
  have hend : c.atEnd = false := by have := g.inRange; simp [CompIt.atEnd]; omega
  refine ⟨(c.cur, v), by simp [CompIt.visit, hend, ModIt.currLoc_of_visit hv], ?_⟩
  simp only [CompIt.next, ModIt.hasNext_eq]
  split at hstep
  · rename_i hb
    simp only [hb, if_true]
    exact ⟨⟨g.nonEmpty, g.inRange, g.num_eq, hstep.1⟩, by simp [CompIt.rest, hstep.2]⟩
  · rename_i hb
    have hnm := CompIt.nextModule_spec g.nonEmpty g.num_eq (Nat.le_of_lt g.inRange)
    simp only [hb, Bool.false_eq_true, if_false]
    split at hnm
    · rename_i hb2
      simp only [hb2, if_true]
      exact ⟨hnm.1, by simp [CompIt.rest, hstep, ← hnm.2]⟩
    · rename_i hb2
      simp [hb2, CompIt.rest, hstep, hnm.2]

theorem CompIt.new_spec (mds : List (List (Nat × Nat))) (skips : List (List Nat)) (hne : AllModsNonEmpty mds) :
    ((CompIt.new mds skips).visit = none ∧ compVisits mds skips = [])
    ∨ (CGood (CompIt.new mds skips) ∧ (CompIt.new mds skips).rest = compVisits mds skips) := by
  by_cases h0 : 0 < mds.length
  · let c0 : CompIt := { cur := 0, num := mds.length, mit := modItFor mds skips 0, mds := mds, skips := skips }
    have hnew : CompIt.new mds skips = if c0.mit.atEnd then c0.nextModule.1 else c0 := rfl
    have hm := modItFor_spec skips hne h0
    rw [List.drop_zero] at hm
    cases he : c0.mit.atEnd with
    | false =>
      rw [show (modItFor mds skips 0).atEnd = false from he] at hm
      rw [hnew, he]
      exact .inr ⟨⟨hne, h0, rfl, hm.1⟩, hm.2.symm⟩
    | true =>
      -- module 0 has nothing to visit: `new` goes on as `next_module` does
      rw [show (modItFor mds skips 0).atEnd = true from he] at hm
      have hnm := CompIt.nextModule_spec (c := c0) hne rfl (Nat.zero_le _)
      rw [hnew, he, compVisits, hm]
      split at hnm
      · exact .inr hnm
      · exact .inl ⟨by simp [CompIt.visit, hnm.1], hnm.2⟩
  · obtain rfl : mds = [] := List.length_eq_zero_iff.mp (by omega)
    exact .inl ⟨rfl, rfl⟩

theorem CompIt.trace_new (mds : List (List (Nat × Nat))) (skips : List (List Nat)) (hne : AllModsNonEmpty mds) {k : Nat}
    (hk : (compVisits mds skips).length ≤ k + 1) : (CompIt.new mds skips).trace k = compVisits mds skips := by
  rw [CompIt.trace_eq]; exact clientLoop_eq_spec CGood.step (CompIt.new_spec mds skips hne) hk

end Orca.Iter
