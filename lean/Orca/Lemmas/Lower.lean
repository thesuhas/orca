import Orca.Model.Lower
/-!
First facts about M3: emission is a `flatMap` of what one instruction contributes (`emitOne`); `modifyAt` is core `List.modify`, read at
the middle of `A ++ x :: B` (`modifyAt_mid`: the form every resolver step is stated in); the equations of the injection API (`apply`).
-/
namespace Orca.Lower

def emitOne (last : Nat) (idx : Nat) (i : Instr) : List Tok :=
  let atEnd := idx ≥ last
  i.before ++ (match i.alt with
               | some a => if atEnd then [i.tok] else a
               | none => [i.tok]) ++ (if atEnd then [] else i.after)

theorem emitFrom_cons (last idx : Nat) (i : Instr) (is : List Instr) :
    emitFrom last idx (i :: is) = emitOne last idx i ++ emitFrom last (idx + 1) is := rfl

theorem emitOne_eq (last idx : Nat) (i : Instr) :
    emitOne last idx i = i.before ++ (if idx ≥ last then [i.tok] else i.alt.getD [i.tok]) ++ (if idx ≥ last then [] else i.after) := by
  unfold emitOne
  cases i.alt <;> by_cases h : idx ≥ last <;> simp [h]

theorem emitFrom_eq (last : Nat) : ∀ (b : List Instr) (k : Nat),
    emitFrom last k b = (b.zipIdx k).flatMap (fun p => emitOne last p.2 p.1) := by
  intro b
  induction b with
  | nil => intro k; rfl
  | cons i b ih =>
    intro k
    simp only [emitFrom, List.zipIdx_cons, List.flatMap_cons, ih (k + 1)]
    rfl

theorem emitFrom_append (last : Nat) (xs ys : List Instr) (k : Nat) :
    emitFrom last k (xs ++ ys) = emitFrom last k xs ++ emitFrom last (k + xs.length) ys := by
  rw [emitFrom_eq, emitFrom_eq, emitFrom_eq, List.zipIdx_append, List.flatMap_append]

def emitMid (i : Instr) : List Tok := i.before ++ i.alt.getD [i.tok] ++ i.after

theorem emitFrom_mid (last : Nat) : ∀ (xs : List Instr) (k : Nat), k + xs.length ≤ last → emitFrom last k xs = xs.flatMap emitMid
  | [], _, _ => rfl
  | x :: xs, k, hl => by
    simp only [List.length_cons] at hl
    have hk : ¬ k ≥ last := by omega
    rw [emitFrom_cons, emitOne_eq, if_neg hk, if_neg hk, emitFrom_mid last xs (k + 1) (by omega), List.flatMap_cons, emitMid]

theorem emit_eq (f : Func) :
    emit f = f.body.zipIdx.flatMap (fun p => emitOne (f.body.length - 1) p.2 p.1) := by
  simp [emit, emitFrom_eq]

theorem resolveSpecial_of_not_special (f : Func) (h : f.hasSpecial = false) : resolveSpecial f = f := by
  simp [resolveSpecial, h]

/-- the entry code the resolver works with: when there is exit code, the opener of the wrapper block follows the entry code -/
def entryToks (f : Func) : List Tok := if f.exit.isEmpty then f.entry else f.entry ++ [tWrapper]

theorem resolveSpecial_of_special (f : Func) (h : f.hasSpecial = true) :
    resolveSpecial f =
      let body0 := modifyAt f.body (f.body.length - 1) (fun i => { i with mode := some .before })
      let s := rloop (f.body.length - 1) { body := body0, entry := entryToks f, exit := f.exit, nlocals := f.nlocals } 0 body0
      { f with body := s.body, fmode := none, entry := [], exit := [], nlocals := s.nlocals, added := f.added + s.added } := by
  rw [resolveSpecial, h]; rfl

theorem modifyAt_eq_modify : ∀ (l : List Instr) (i : Nat) (f : Instr → Instr), modifyAt l i f = l.modify i f
  | [], i, f => by simp [modifyAt]
  | a :: l, 0, f => by simp [modifyAt]
  | a :: l, i + 1, f => by
    have ih := modifyAt_eq_modify l i f
    rw [List.modify_succ_cons, ← ih, modifyAt, modifyAt, List.getElem?_cons_succ]
    cases l[i]? <;> rfl

theorem getElem?_modifyAt (b : List Instr) (idx j : Nat) (g : Instr → Instr) :
    (modifyAt b idx g)[j]? = if j = idx then (b[j]?).map g else b[j]? := by
  rw [modifyAt_eq_modify, List.getElem?_modify]
  by_cases h : j = idx
  · subst h; cases b[j]? <;> simp
  · have : ¬ idx = j := fun e => h e.symm
    cases b[j]? <;> simp [h, this]

theorem modifyAt_length (b : List Instr) (idx : Nat) (g : Instr → Instr) : (modifyAt b idx g).length = b.length := by
  rw [modifyAt_eq_modify, List.length_modify]

theorem modifyAt_modifyAt (b : List Instr) (idx : Nat) (g1 g2 : Instr → Instr) :
    modifyAt (modifyAt b idx g1) idx g2 = modifyAt b idx (g2 ∘ g1) := by
  simp only [modifyAt_eq_modify, List.modify_modify_eq]

theorem modifyAt_id (b : List Instr) (idx : Nat) : modifyAt b idx id = b := by
  rw [modifyAt_eq_modify, List.modify_id]

theorem map_modifyAt {β : Type} (φ : Instr → β) (l : List Instr) (i : Nat) (g : Instr → Instr) (h : ∀ x, φ (g x) = φ x) :
    (modifyAt l i g).map φ = l.map φ := by
  apply List.ext_getElem?
  intro k
  rw [List.getElem?_map, getElem?_modifyAt, List.getElem?_map]
  split
  · cases l[k]? <;> simp [h]
  · rfl

/-- the instruction without its mode: nothing the resolver, the encoder or the machines do reads the mode -/
def stripMode (i : Instr) : Instr := { i with mode := none }

theorem map_stripMode_modifyAt (xs : List Instr) (j : Nat) (m : Option Mode) :
    (modifyAt xs j (fun i => { i with mode := m })).map stripMode = xs.map stripMode :=
  map_modifyAt stripMode xs j _ fun _ => rfl

theorem emitFrom_stripMode (last : Nat) (xs : List Instr) (k : Nat) : emitFrom last k (xs.map stripMode) = emitFrom last k xs := by
  rw [emitFrom_eq, emitFrom_eq, List.zipIdx_map, List.flatMap_map]
  rfl

theorem emitFrom_modifyMode (last k j : Nat) (xs : List Instr) (m : Option Mode) :
    emitFrom last k (modifyAt xs j (fun i => { i with mode := m })) = emitFrom last k xs := by
  rw [← emitFrom_stripMode, map_stripMode_modifyAt, emitFrom_stripMode]

theorem modifyAt_append_right (g : Instr → Instr) (post : List Instr) :
    ∀ (X : List Instr) (i : Nat), X.length ≤ i → modifyAt (X ++ post) i g = X ++ modifyAt post (i - X.length) g
  | [], i, _ => rfl
  | a :: X, 0, h => by simp at h
  | a :: X, i + 1, h => by
    have ih := modifyAt_append_right g post X i (by simpa using h)
    simp only [modifyAt_eq_modify] at ih ⊢
    rw [List.cons_append, List.modify_succ_cons, ih, List.length_cons, Nat.add_sub_add_right, List.cons_append]

theorem modifyAt_mid (A B : List Instr) (x : Instr) (g : Instr → Instr) :
    modifyAt (A ++ x :: B) A.length g = A ++ g x :: B := by
  simp [modifyAt]

theorem forall_mem_modifyAt {P : Instr → Prop} {xs : List Instr} (h : ∀ x ∈ xs, P x) (idx : Nat) {g : Instr → Instr}
    (hg : ∀ x, P x → P (g x)) : ∀ y ∈ modifyAt xs idx g, P y := by
  intro y hy
  unfold modifyAt at hy
  split at hy
  · rename_i x hx
    rcases List.mem_or_eq_of_mem_set hy with h1 | rfl
    · exact h y h1
    · exact hg x (h x (List.mem_of_getElem? hx))
  · exact h y hy

theorem modifyAt_get (l : List Instr) (i : Nat) (g : Instr → Instr) (x : Instr) (h : l[i]? = some x) :
    (modifyAt l i g)[i]? = some (g x) ∧ (∀ j, j ≠ i → (modifyAt l i g)[j]? = l[j]?) ∧ (modifyAt l i g).length = l.length :=
  ⟨by rw [getElem?_modifyAt, if_pos rfl, h]; rfl, fun j hj => by rw [getElem?_modifyAt, if_neg hj], modifyAt_length l i g⟩

/-- what a plain-mode injection does to the flags of the instruction it addresses -/
def grow (m : Mode) (x : Instr) (t : Tok) : Instr :=
  match m with
  | .before => { x with mode := some m, before := x.before ++ [t] }
  | .after => { x with mode := some m, after := x.after ++ [t] }
  | _ => { x with mode := some m, alt := some ((x.alt.getD []) ++ [t]) }

theorem inject_eq_addInstrAt (f : Func) (idx : Nat) (t : Tok) (hf : f.fmode = none) :
    apply f (.inject idx t) = apply f (.addInstrAt idx t) := by
  simp only [apply, hf]

theorem setMode_spec (f f1 : Func) (idx : Nat) (m : Mode) (h : apply f (.setMode idx m) = some f1) :
    ∃ x, f.body[idx]? = some x ∧ f1 = { f with body := modifyAt f.body idx (fun i => { i with mode := some m }), fmode := none } := by
  simp only [apply] at h
  cases hx : f.body[idx]? with
  | none => simp [hx] at h
  | some x => simp only [hx, Option.some.injEq] at h; exact ⟨x, rfl, h.symm⟩

theorem injectAtRaw_eq (f : Func) (idx : Nat) (m : Mode) (t : Tok) :
    apply f (.injectAtRaw idx m t) = (apply f (.setMode idx m)).bind (fun f1 => apply f1 (.addInstrAt idx t)) := by
  simp only [apply]
  cases hx : f.body[idx]? with
  | none => rfl
  | some x =>
    have hm : modifyAt f.body idx (fun i => { i with mode := some m }) = f.body.set idx { x with mode := some m } := by
      rw [modifyAt, hx]
    simp only [Option.bind_some, hm, List.getElem?_set_self (List.getElem?_eq_some_iff.mp hx).1, List.set_set]

theorem setMode_inject (f : Func) (idx : Nat) (m : Mode) (t : Tok) (x y : Instr) (sp : Bool) (hx : f.body[idx]? = some x)
    (hadd : ({ x with mode := some m } : Instr).addInstr t = some (y, sp)) :
    ∃ f2, applyAll f [.setMode idx m, .inject idx t] = some f2 ∧ f2.hasSpecial = (f.hasSpecial || sp) ∧ f2.entry = f.entry
      ∧ f2.exit = f.exit ∧ f2.body[idx]? = some y ∧ (∀ j, j ≠ idx → f2.body[j]? = f.body[j]?) ∧ f2.body.length = f.body.length := by
  have h1 : (modifyAt f.body idx (fun i => { i with mode := some m }))[idx]? = some { x with mode := some m } := by
    rw [getElem?_modifyAt, if_pos rfl, hx]; rfl
  have hlt : idx < (modifyAt f.body idx (fun i => { i with mode := some m })).length := by
    rw [modifyAt_length]; exact (List.getElem?_eq_some_iff.mp hx).1
  refine ⟨{ f with body := (modifyAt f.body idx (fun i => { i with mode := some m })).set idx y, fmode := none,
                   hasSpecial := f.hasSpecial || sp }, by simp [applyAll, apply, hx, h1, hadd], rfl, rfl, rfl, by simp [hlt], fun j hj => ?_,
    by simp [modifyAt_length]⟩
  show ((modifyAt f.body idx (fun i => { i with mode := some m })).set idx y)[j]? = _
  rw [List.getElem?_set_ne (Ne.symm hj), getElem?_modifyAt, if_neg hj]

theorem addInstr_special {i i' : Instr} {t : Tok} {sp : Bool} (ha : i.addInstr t = some (i', sp))
    (hm : i.mode = some .semanticAfter ∨ i.mode = some .blockEntry ∨ i.mode = some .blockExit ∨ i.mode = some .blockAlt) : sp = true := by
  unfold Instr.addInstr at ha
  rcases hm with hm | hm | hm | hm <;> rw [hm] at ha <;> dsimp only at ha <;> split at ha <;> cases ha <;> rfl

theorem addInstrAt_spec (f f' : Func) (idx : Nat) (t : Tok) (h : apply f (.addInstrAt idx t) = some f') :
    ∃ x x' sp, f.body[idx]? = some x ∧ x.addInstr t = some (x', sp) ∧ f'.body = f.body.set idx x'
      ∧ f'.hasSpecial = (f.hasSpecial || sp) ∧ f'.fmode = f.fmode ∧ f'.entry = f.entry ∧ f'.exit = f.exit := by
  simp only [apply] at h
  cases hx : f.body[idx]? with
  | none => simp [hx] at h
  | some x =>
    simp only [hx] at h
    cases ha : x.addInstr t with
    | none => simp [ha] at h
    | some p =>
      obtain ⟨i', sp⟩ := p
      simp only [ha, Option.some.injEq] at h
      subst h
      exact ⟨x, i', sp, rfl, ha, rfl, rfl, rfl, rfl, rfl⟩

end Orca.Lower
