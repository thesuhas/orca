import Orca.Model.Reindex
/-!
M1: `reorganise_generic` in closed form. The loop is followed in two phases (indices below / from `orig`). What one iteration does to
the entry it stands in front of is `rstep_below` / `rstep_above`; each phase lemma gives, in one induction, that no `Vec::remove` /
`Vec::insert` goes out of range and what the loop state is afterwards.
-/
namespace Orca.Reindex

theorem getElem?_mid (A B : List Item) (v : Item) : (A ++ v :: B)[A.length]? = some v := by simp

theorem eraseIdx_mid (A B : List Item) (v : Item) : (A ++ v :: B).eraseIdx A.length = A ++ B := by
  rw [List.eraseIdx_append_of_length_le (Nat.le_refl _), Nat.sub_self, List.eraseIdx_cons_zero]

theorem insertIdx_mid (A B : List Item) (v : Item) : (A ++ B).insertIdx A.length v = A ++ v :: B := by
  rw [List.insertIdx, ← Nat.add_zero A.length, List.modifyTailIdx_add]; rfl

theorem counts_step {ni nd n f : Nat} (hf : f ≤ n) :
    ni - 1 - (n - f) = ni - (n + 1 - f) ∧ nd + 1 + (n - f) = nd + (n + 1 - f) := by
  rw [Nat.sub_add_comm hf, Nat.sub_sub, Nat.add_assoc, Nat.add_comm 1]
  exact ⟨rfl, rfl⟩

theorem rstep_below {orig idx nd : Nat} (hlt : idx < orig) {A : List Item} (hp : idx - nd = A.length) (v : Item) (B : List Item)
    (ni : Nat) :
    rstepOk orig { live := A ++ v :: B, numImported := ni, numDeleted := nd } idx v = true ∧
    rstep orig { live := A ++ v :: B, numImported := ni, numDeleted := nd } idx v =
      if keepImp v then { live := A ++ v :: B, numImported := ni, numDeleted := nd }
      else { live := A ++ (B ++ if keepLoc v then [v] else []), numImported := ni - 1, numDeleted := nd + 1 } := by
  simp only [rstepOk, rstep, hlt, if_true, hp, getElem?_mid, eraseIdx_mid, keepImp, keepLoc]
  by_cases hd : v.del <;> by_cases hi : v.imp <;> simp [hd, hi]

theorem phase1_run (orig : Nat) (vs : List Item) :
    ∀ (K rest M : List Item) (idx ni nd : Nat), idx = K.length + nd → idx + vs.length ≤ orig →
    rloopOk orig { live := K ++ (vs ++ (rest ++ M)), numImported := ni, numDeleted := nd } idx vs = true ∧
    rloop orig { live := K ++ (vs ++ (rest ++ M)), numImported := ni, numDeleted := nd } idx vs =
      { live := K ++ (vs.filter keepImp ++ (rest ++ (M ++ vs.filter keepLoc))),
        numImported := ni - (vs.length - (vs.filter keepImp).length),
        numDeleted := nd + (vs.length - (vs.filter keepImp).length) } := by
  induction vs with
  | nil => intro K rest M idx ni nd _ _; simp [rloop, rloopOk]
  | cons v vs ih =>
    intro K rest M idx ni nd hidx hle
    have hle' : idx + 1 + vs.length ≤ orig := by rwa [Nat.add_assoc, Nat.add_comm 1]
    have hlt : idx < orig := Nat.lt_of_lt_of_le (Nat.lt_add_of_pos_right (Nat.succ_pos _)) hle
    obtain ⟨hok, hstep⟩ := rstep_below hlt (A := K) (by rw [hidx, Nat.add_sub_cancel]) v (vs ++ (rest ++ M)) ni
    rw [List.cons_append, rloop, rloopOk, hok, hstep, Bool.true_and, List.filter_cons, List.filter_cons]
    by_cases hk : keepImp v = true
    · -- a kept import joins `K`
      have hl : keepLoc v = false := by simp [keepImp, keepLoc] at hk ⊢; simp [hk.1]
      have := ih (K ++ [v]) rest M (idx + 1) ni nd (by rw [hidx, List.length_append, List.length_singleton, Nat.add_right_comm]) hle'
      simpa [hk, hl, Nat.succ_sub_succ] using this
    · -- anything else leaves the window; a kept local joins `M`
      have hfl : (vs.filter keepImp).length ≤ vs.length := List.length_filter_le _ _
      have := ih K rest (M ++ if keepLoc v then [v] else []) (idx + 1) (ni - 1) (nd + 1) (by rw [hidx, Nat.add_assoc]) hle'
      rw [(counts_step (ni := ni) (nd := nd) hfl).1, (counts_step (ni := ni) (nd := nd) hfl).2] at this
      cases hl : keepLoc v <;> simpa [hk, hl] using this

theorem phase1 (orig : Nat) (vs : List Item) :
    ∀ (K rest M : List Item) (idx ni nd : Nat), idx = K.length + nd → idx + vs.length ≤ orig →
    rloop orig { live := K ++ (vs ++ (rest ++ M)), numImported := ni, numDeleted := nd } idx vs =
      { live := K ++ (vs.filter keepImp ++ (rest ++ (M ++ vs.filter keepLoc))),
        numImported := ni - (vs.length - (vs.filter keepImp).length),
        numDeleted := nd + (vs.length - (vs.filter keepImp).length) } :=
  fun K rest M idx ni nd h1 h2 => (phase1_run orig vs K rest M idx ni nd h1 h2).2

/-- `P`: the imports so far, `L`: the locals passed -/
theorem rstep_above {orig idx nd : Nat} (hge : orig ≤ idx) (P L : List Item) (hp : idx - nd = (P ++ L).length) (v : Item)
    (B : List Item) :
    rstepOk orig { live := P ++ L ++ v :: B, numImported := P.length, numDeleted := nd } idx v = true ∧
    rstep orig { live := P ++ L ++ v :: B, numImported := P.length, numDeleted := nd } idx v =
      if v.del then { live := P ++ L ++ B, numImported := P.length, numDeleted := nd + 1 }
      else if v.imp then { live := P ++ v :: (L ++ B), numImported := P.length + 1, numDeleted := nd }
      else { live := P ++ L ++ v :: B, numImported := P.length, numDeleted := nd } := by
  have hins : (P ++ L ++ B).insertIdx P.length v = P ++ v :: (L ++ B) := by rw [List.append_assoc, insertIdx_mid]
  simp only [rstepOk, rstep, Nat.not_lt.mpr hge, if_false, hp, getElem?_mid, eraseIdx_mid, hins]
  by_cases hd : v.del <;> by_cases hi : v.imp <;> simp [hd, hi] <;> omega

theorem phase2_run (orig : Nat) (vs : List Item) :
    ∀ (P L M : List Item) (idx nd : Nat), idx = P.length + L.length + nd → orig ≤ idx →
    rloopOk orig { live := P ++ L ++ (vs ++ M), numImported := P.length, numDeleted := nd } idx vs = true ∧
    rloop orig { live := P ++ L ++ (vs ++ M), numImported := P.length, numDeleted := nd } idx vs =
      { live := (P ++ vs.filter keepImp) ++ (L ++ vs.filter keepLoc) ++ M,
        numImported := (P ++ vs.filter keepImp).length,
        numDeleted := nd + (vs.filter (fun x => x.del)).length } := by
  induction vs with
  | nil => intro P L M idx nd _ _; simp [rloop, rloopOk]
  | cons v vs ih =>
    intro P L M idx nd hidx hle
    obtain ⟨hok, hstep⟩ := rstep_above hle P L (by rw [hidx, Nat.add_sub_cancel, List.length_append]) v (vs ++ M)
    rw [List.cons_append, rloop, rloopOk, hok, hstep, Bool.true_and]
    have hle' : orig ≤ idx + 1 := Nat.le_succ_of_le hle
    by_cases hdel : v.del
    · have := ih P L M (idx + 1) (nd + 1) (by omega) hle'
      simpa [keepImp, keepLoc, hdel, Nat.add_assoc, Nat.add_comm 1] using this
    · by_cases himp : v.imp
      · have := ih (P ++ [v]) L M (idx + 1) nd (by simp; omega) hle'
        simpa [keepImp, keepLoc, hdel, himp] using this
      · have := ih P (L ++ [v]) M (idx + 1) nd (by simp; omega) hle'
        simpa [keepImp, keepLoc, hdel, himp] using this

theorem phase2 (orig : Nat) (vs : List Item) :
    ∀ (K U L M : List Item) (idx nd : Nat), idx = K.length + U.length + L.length + nd → orig ≤ idx →
    rloop orig { live := K ++ (U ++ (L ++ (vs ++ M))), numImported := K.length + U.length, numDeleted := nd } idx vs =
      { live := K ++ ((U ++ vs.filter keepImp) ++ ((L ++ vs.filter keepLoc) ++ M)),
        numImported := K.length + U.length + (vs.filter keepImp).length,
        numDeleted := nd + (vs.filter (fun x => x.del)).length } :=
  fun K U L M idx nd h1 h2 => by
    have := (phase2_run orig vs (K ++ U) L M idx nd (by rw [h1, List.length_append]) h2).2
    simpa [List.append_assoc, Nat.add_assoc] using this

theorem rloop_append (orig : Nat) (as bs : List Item) : ∀ (st : RS) (idx : Nat),
    rloop orig st idx (as ++ bs) = rloop orig (rloop orig st idx as) (idx + as.length) bs := by
  induction as with
  | nil => intro st idx; simp [rloop]
  | cons a as ih => intro st idx; simp [rloop, ih]; congr 1; omega

theorem rloopOk_append (orig : Nat) (as bs : List Item) : ∀ (st : RS) (idx : Nat),
    rloopOk orig st idx (as ++ bs) = (rloopOk orig st idx as && rloopOk orig (rloop orig st idx as) (idx + as.length) bs) := by
  induction as with
  | nil => intro st idx; simp [rloopOk, rloop]
  | cons a as ih =>
    intro st idx
    simp only [List.cons_append, rloopOk, rloop, ih, List.length_cons, Bool.and_assoc]
    congr 3; omega

theorem run_split (as bs : List Item) :
    rloopOk as.length { live := as ++ bs, numImported := as.length, numDeleted := 0 } 0 (as ++ bs) = true ∧
    (rloop as.length { live := as ++ bs, numImported := as.length, numDeleted := 0 } 0 (as ++ bs)).live
      = as.filter keepImp ++ bs.filter keepImp ++ bs.filter keepLoc ++ as.filter keepLoc := by
  have hk : (as.filter keepImp).length ≤ as.length := List.length_filter_le _ _
  obtain ⟨ok1, eq1⟩ := phase1_run as.length as [] bs [] 0 as.length 0 (by simp) (by simp)
  obtain ⟨ok2, eq2⟩ := phase2_run as.length bs (as.filter keepImp) [] (as.filter keepLoc) as.length
    (as.length - (as.filter keepImp).length) (by simp; omega) (Nat.le_refl _)
  simp only [List.nil_append, List.append_nil, Nat.zero_add] at ok1 eq1 ok2 eq2
  rw [show as.length - (as.length - (as.filter keepImp).length) = (as.filter keepImp).length by omega] at eq1
  rw [rloopOk_append, rloop_append, Nat.zero_add, ok1, eq1, ok2, eq2]
  simp

theorem reorganise_run (orig : Nat) (xs : List Item) (h : orig ≤ xs.length) :
    rloopOk orig { live := xs, numImported := orig, numDeleted := 0 } 0 xs = true ∧ reorganise orig xs = closed orig xs := by
  have := run_split (xs.take orig) (xs.drop orig)
  rwa [List.take_append_drop, List.length_take, Nat.min_eq_left h] at this

theorem reorganise_eq (orig : Nat) (xs : List Item) (h : orig ≤ xs.length) :
    reorganise orig xs = closed orig xs := (reorganise_run orig xs h).2

theorem rloopOk_true (orig : Nat) (xs : List Item) (h : orig ≤ xs.length) :
    rloopOk orig { live := xs, numImported := orig, numDeleted := 0 } 0 xs = true := (reorganise_run orig xs h).1

end Orca.Reindex
