import Orca.Model.Sections
/-!
M15: membership in the section plan (`mem_plan`), and the order of its non-custom part: `core s` is a sublist of the list of all
non-custom sections, which is sorted by `rank` (a decided fact about one literal list).
-/
namespace Orca.Sections

def core (s : Shape) : List Nat := (plan s).filter (· ≠ 0)

/-- all non-custom sections, in the order of the binary format -/
def allCore : List Nat := [1, 2, 3, 4, 5, 13, 6, 7, 8, 9, 12, 10, 11]

theorem mem_plan {s : Shape} {x : Nat} : x ∈ plan s ↔
    s.typeGroups > 0 ∧ x = 1 ∨ s.imports > 0 ∧ x = 2 ∨ s.funcs > 0 ∧ x = 3 ∨ s.tables > 0 ∧ x = 4 ∨ s.mems > 0 ∧ x = 5
    ∨ s.tags > 0 ∧ x = 13 ∨ s.globals > 0 ∧ x = 6 ∨ s.exports > 0 ∧ x = 7 ∨ s.start = true ∧ x = 8 ∨ s.elems > 0 ∧ x = 9
    ∨ s.dataCount = true ∧ x = 12 ∨ x = 10 ∨ s.datas > 0 ∧ x = 11 ∨ x = 0 := by
  have : x = 0 ∨ s.customs ≠ 0 ∧ x = 0 ↔ x = 0 := ⟨fun h => h.elim id (·.2), .inl⟩
  simp only [plan, List.mem_append, List.mem_ite_nil_right, List.mem_singleton, List.mem_replicate, or_assoc, this]

theorem opt_append_sublist {c : Prop} [Decidable c] {x : Nat} {l₁ l₂ : List Nat} (h : l₁.Sublist l₂) :
    ((if c then [x] else []) ++ l₁).Sublist (x :: l₂) := by
  split
  · exact h.cons_cons x
  · exact h.cons x

theorem core_eq (s : Shape) : core s =
    (if s.typeGroups > 0 then [1] else []) ++ (if s.imports > 0 then [2] else []) ++ (if s.funcs > 0 then [3] else [])
      ++ (if s.tables > 0 then [4] else []) ++ (if s.mems > 0 then [5] else []) ++ (if s.tags > 0 then [13] else [])
      ++ (if s.globals > 0 then [6] else []) ++ (if s.exports > 0 then [7] else []) ++ (if s.start then [8] else [])
      ++ (if s.elems > 0 then [9] else []) ++ (if s.dataCount then [12] else []) ++ [10] ++ (if s.datas > 0 then [11] else []) := by
  simp [core, plan, List.filter_append, apply_ite (List.filter _)]

theorem core_sublist (s : Shape) : (core s).Sublist allCore := by
  rw [core_eq]
  simp only [List.append_assoc]
  iterate 11 apply opt_append_sublist
  exact .cons_cons 10 (by split <;> simp)

theorem allCore_sorted : allCore.Pairwise (fun x y => rank x < rank y) := by decide +kernel

theorem core_sorted (s : Shape) : (core s).Pairwise (fun x y => rank x < rank y) :=
  allCore_sorted.sublist (core_sublist s)

theorem mem_core_of (s : Shape) (x : Nat) (h : x ∈ core s) : x ∈ allCore := (core_sublist s).subset h

end Orca.Sections
