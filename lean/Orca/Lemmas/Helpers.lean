import Orca.Model.Helpers
/-!
The arithmetic behind C24 / C30: reading a `w`-bit pattern as a signed number and taking the pattern of the result is the identity
(`bitsOf_toSigned`); the only conversions that do so are those `signedField` lists, each at the width of its parameter type.
-/
namespace Orca.Helpers

theorem bitsOf_toSigned (w n : Nat) (hw : 0 < w) (h : n < 2 ^ w) : bitsOf w (toSigned w n) = n := by
  unfold bitsOf toSigned
  have hp := Nat.two_pow_pred_add_two_pow_pred hw
  split
  · have : ((n : Int) % ((2 ^ w : Nat) : Int)) = (n : Int) := Int.emod_eq_of_lt (by omega) (by omega)
    rw [this]; simp
  · have : (((n : Int) - ((2 ^ w : Nat) : Int)) % ((2 ^ w : Nat) : Int)) = (n : Int) := by
      rw [Int.sub_emod, Int.emod_self, Int.sub_zero, Int.emod_emod_of_dvd _ (Int.dvd_refl _)]
      exact Int.emod_eq_of_lt (by omega) (by omega)
    rw [this]; simp

theorem toSigned_range (w n : Nat) (hw : 0 < w) (h : n < 2 ^ w) :
    -((2 ^ (w - 1) : Nat) : Int) ≤ toSigned w n ∧ toSigned w n < ((2 ^ (w - 1) : Nat) : Int) := by
  unfold toSigned
  have hp := Nat.two_pow_pred_add_two_pow_pred hw
  split <;> omega

theorem signedField_width {c : Conv} {t : PTy} {w : Nat} (h : signedField c t = some w) (hfit : c.fits t = true) :
    t.width = w ∧ 0 < w := by
  unfold signedField at h
  split at h <;> cases h
  · -- `x as i32` applies to a `u32` only
    obtain rfl : t = .u32 := by simpa [Conv.fits] using hfit
    exact ⟨rfl, by decide⟩
  · obtain rfl : t = .u64 := by simpa [Conv.fits] using hfit
    exact ⟨rfl, by decide⟩
  · exact ⟨rfl, by decide⟩
  · exact ⟨rfl, by decide⟩

theorem fieldBits_fieldVal (c : Conv) (t : PTy) (n : Nat) (hfit : c.fits t = true)
    (hb : t.width ≠ 0 → n < 2 ^ t.width) : fieldBits c t (fieldVal c t n) = n := by
  unfold fieldBits fieldVal
  cases h : signedField c t with
  | none => simp
  | some w =>
    obtain ⟨rfl, hpos⟩ := signedField_width h hfit
    exact bitsOf_toSigned _ n hpos (hb (by omega))

end Orca.Helpers
