import Orca.Lemmas.StackAlt
/-!
The stack machine completed: function entry / exit code and semantic-after probes on branches (the flag scheme) join the block-level
probes and block alternates. For a marked function whose plan is in scope (`PlainF`) and whose body the machine `specRunF` accepts, the
resolver and the encoder produce the machine's output (`lower_eq_specF`); the machine accepts every well-nested body (`specRunF_total`)
and, without block alternates, loses no probe but that of a branch to the function's own label only (`specRunF_keeps`, F15). The
smaller machines and their theorems are special cases.
-/
namespace Orca.Lower

def parkFr (fr : List Fr) (k : Nat) (e : List Tok × Nat) : List Fr :=
  (fr.reverse.modify k (fun f => { f with afterFl := f.afterFl ++ [e] })).reverse

theorem parkFr_length (fr : List Fr) (k : Nat) (e : List Tok × Nat) : (parkFr fr k e).length = fr.length := by
  simp [parkFr, List.length_modify]

theorem frAt_parkFr (fr : List Fr) (k j : Nat) (e : List Tok × Nat) (hk : k < fr.length) :
    frAt (parkFr fr k e) j = if j = k then { frAt fr k with afterFl := (frAt fr k).afterFl ++ [e] } else frAt fr j := by
  unfold frAt parkFr
  rw [List.reverse_reverse, List.getElem?_modify]
  by_cases hj : j = k
  · subst hj
    have : j < fr.reverse.length := by simpa using hk
    simp [List.getElem?_eq_getElem this]
  · have : ¬ k = j := fun h => hj h.symm
    simp only [this, hj, if_false]
    cases fr.reverse[j]? <;> rfl

theorem branching_not_blockStyle {k : Kind} (h : k.isBranching = true) : k.isBlockStyle = false := by
  cases k <;> first | rfl | cases h

theorem branching_flat {k : Kind} (h : k.isBranching = true) : k ≠ .block ∧ k ≠ .loop ∧ k ≠ .if_ ∧ k ≠ .else_ ∧ k ≠ .end_ := by
  cases k <;> simp [Kind.isBranching] at h ⊢

def branchTargets : Kind → List Nat
  | .br d => [d]
  | .brIf d => [d]
  | .brTable ts d => ts ++ [d]
  | _ => []

/-- the probe of a conditional branch also stands behind it, for the case that the branch is not taken -/
def notTaken (i : Instr) : List Tok :=
  match i.kind with
  | .brIf _ => i.semAfter
  | _ => []

/-- `planSpecial` on a branch with semantic-after code (and no other special list): a fresh flag local, set in front of the branch and
    cleared behind it (for `br_if` the code also runs inline there), the code parked under the flag at every target -/
theorem planSpecial_branch (s : RState) (done rest : List Instr) (c ins : Instr) (hk : ins.kind.isBranching = true)
    (hs : ins.semAfter ≠ []) (he : ins.blockEntry = []) (hx : ins.blockExit = []) (hb : s.body = done ++ c :: rest) :
    ∃ c', planSpecial s done.length ins =
        { s with body := done ++ c' :: rest,
                 onEndAfter := parkAllT s.onEndAfter (top s.stack) (ins.semAfter, s.nlocals) (branchTargets ins.kind),
                 nlocals := s.nlocals + 1, added := s.added + 1 }
      ∧ Chg c c' [tConst 1, tLocalSet s.nlocals] ([tConst 0, tLocalSet s.nlocals] ++ notTaken ins) := by
  have hse : ins.semAfter.isEmpty = false := by cases h : ins.semAfter with | nil => exact absurd h hs | cons _ _ => rfl
  -- only the semantic-after stage does anything
  have h0 : planSpecial s done.length ins = stageSemG s done.length ins := by
    rw [planSpecial_stages]
    simp only [stageEntry, stageExit, he, hx, List.isEmpty_nil, if_true]
  rw [h0]
  cases hkk : ins.kind with
  | br _ | brIf _ =>
    all_goals
      simp only [stageSemG, hse, hkk, Bool.false_eq_true, if_false, if_true, hb, addBefore, addAfter, modifyAt_mid, notTaken]
      exact ⟨_, rfl, rfl, rfl, rfl, rfl⟩
  | brTable ts d =>
    -- the fold over the targets is `parkAllT`
    have e : stageSemG s done.length ins =
        (let s1 : RState := { s with body := addAfter (addBefore s.body done.length [tConst 1, tLocalSet s.nlocals]) done.length
                                        ([tConst 0, tLocalSet s.nlocals] ++ []), nlocals := s.nlocals + 1, added := s.added + 1 }
         let s2 := parkS (ins.semAfter, s.nlocals) (ts.foldl (parkS (ins.semAfter, s.nlocals)) s1) d
         { s2 with body := modifyAt s2.body done.length (fun i => { i with semAfter := [] }) }) := by
      simp only [stageSemG, hse, hkk, Bool.false_eq_true, if_false]
      rfl
    rw [e]
    simp only [foldl_park, parkS, hb, addBefore, addAfter, modifyAt_mid, notTaken, hkk]
    refine ⟨{ c with mode := some .after, before := c.before ++ [tConst 1, tLocalSet s.nlocals],
                     after := c.after ++ ([tConst 0, tLocalSet s.nlocals] ++ []), semAfter := [] }, ?_, rfl, rfl, rfl, rfl⟩
    simp [parkAllT, branchTargets, List.foldl_append]
  | block | loop | if_ | else_ | end_ | exitLike | other => all_goals simp [hkk, Kind.isBranching] at hk

def parkAllF (fr : List Fr) (topId : Nat) (e : List Tok × Nat) (ts : List Nat) : List Fr :=
  ts.foldl (fun f d => parkFr f (topId - d) e) fr

theorem frAt_parkAllF (topId : Nat) (e : List Tok × Nat) : ∀ (ts : List Nat) (fr : List Fr), topId < fr.length →
    (parkAllF fr topId e ts).length = fr.length
    ∧ ∀ k, frAt (parkAllF fr topId e ts) k
        = { frAt fr k with afterFl := (frAt fr k).afterFl ++ (ts.filter (fun t => topId - t = k)).map (fun _ => e) } := by
  intro ts
  induction ts with
  | nil => intro fr _; exact ⟨rfl, fun k => by simp [parkAllF]⟩
  | cons d ts ih =>
    intro fr hl
    have hk : topId - d < fr.length := by omega
    have hl' : topId < (parkFr fr (topId - d) e).length := by rw [parkFr_length]; exact hl
    obtain ⟨a1, a2⟩ := ih (parkFr fr (topId - d) e) hl'
    refine ⟨a1.trans (parkFr_length _ _ _), fun k => ?_⟩
    show frAt (parkAllF (parkFr fr (topId - d) e) topId e ts) k = _
    rw [a2 k, frAt_parkFr _ _ _ _ hk]
    by_cases hkk : k = topId - d
    · subst hkk; simp
    · have : ¬ (topId - d = k) := fun h => hkk h.symm
      simp [hkk, this]

theorem getInj_parkAllT (topId : Nat) (e : List Tok × Nat) : ∀ (ts : List Nat) (tbl : List (Nat × ToInject)) (j : Nat),
    flat (getInj (parkAllT tbl topId e ts) j) = flat (getInj tbl j)
    ∧ (getInj (parkAllT tbl topId e ts) j).flagged
        = (getInj tbl j).flagged ++ (ts.filter (fun t => topId - t = j)).map (fun _ => e) := by
  intro ts
  induction ts with
  | nil => intro tbl j; simp [parkAllT]
  | cons d ts ih =>
    intro tbl j
    obtain ⟨a, b⟩ := ih (addFlag tbl (topId - d) e) j
    show flat (getInj (parkAllT (addFlag tbl (topId - d) e) topId e ts) j) = _ ∧ (getInj (parkAllT (addFlag tbl (topId - d) e) topId e ts) j).flagged = _
    rw [a, b, addFlag_flat, addFlag_flagged]
    by_cases h : j = topId - d
    · subst h; simp
    · have : ¬ (topId - d = j) := fun h' => h h'.symm
      simp [h, this]

theorem parkAll_agree (topId : Nat) (e : List Tok × Nat) : ∀ (ts : List Nat) (tbl : List (Nat × ToInject)) (fr : List Fr),
    topId < fr.length →
    (∀ j, flat (getInj tbl j) = (frAt fr j).afterA) → (∀ j, (getInj tbl j).flagged = (frAt fr j).afterFl) →
    (∀ j, flat (getInj (parkAllT tbl topId e ts) j) = (frAt (parkAllF fr topId e ts) j).afterA)
    ∧ (∀ j, (getInj (parkAllT tbl topId e ts) j).flagged = (frAt (parkAllF fr topId e ts) j).afterFl)
    ∧ (∀ j, (frAt (parkAllF fr topId e ts) j).ifExit = (frAt fr j).ifExit)
    ∧ (∀ j, (frAt (parkAllF fr topId e ts) j).exitB = (frAt fr j).exitB)
    ∧ (parkAllF fr topId e ts).length = fr.length := by
  intro ts tbl fr hl h3 h3f
  obtain ⟨hlen, hfr⟩ := frAt_parkAllF topId e ts fr hl
  exact ⟨fun j => by rw [(getInj_parkAllT topId e ts tbl j).1, h3, hfr], fun j => by rw [(getInj_parkAllT topId e ts tbl j).2, h3f, hfr],
    fun j => by rw [hfr], fun j => by rw [hfr], hlen⟩

theorem rcore_branch (s : RState) (fr : List Fr) (done rest : List Instr) (c ins : Instr) (ht : Tied s fr) (hfr : fr ≠ [])
    (hk : ins.kind.isBranching = true) (hs : ins.semAfter ≠ []) (he : ins.blockEntry = []) (hx : ins.blockExit = [])
    (hb : s.body = done ++ c :: rest) :
    let s' := rcore s done.length ins
    Tied s' (parkAllF fr (fr.length - 1) (ins.semAfter, s.nlocals) (branchTargets ins.kind))
    ∧ s'.nlocals = s.nlocals + 1 ∧ s'.added = s.added + 1 ∧ s'.entry = s.entry ∧ s'.exit = s.exit
    ∧ ∃ c', s'.body = done ++ c' :: rest
        ∧ Chg c c' [tConst 1, tLocalSet s.nlocals]
            ([tConst 0, tLocalSet s.nlocals] ++ (match ins.kind with | .brIf _ => ins.semAfter | _ => [])) := by
  have hred : rcore s done.length ins = planSpecial s done.length ins :=
    rcore_other s _ ins (branching_not_blockStyle hk) (branching_flat hk).2.2.2.2 ht.del
  obtain ⟨c', h, hc⟩ := planSpecial_branch s done rest c ins hk hs he hx hb
  obtain ⟨n, hn⟩ : ∃ n, fr.length = n + 1 := by
    cases fr with
    | nil => exact absurd rfl hfr
    | cons a l => exact ⟨l.length, rfl⟩
  have htop : top s.stack = fr.length - 1 := by rw [ht.stack, hn, top_range_succ]; rfl
  obtain ⟨b1, b2, b3, b4, b5⟩ := parkAll_agree (fr.length - 1) (ins.semAfter, s.nlocals) (branchTargets ins.kind) s.onEndAfter fr
    (by omega) ht.t3 ht.t3f
  rw [hred, h, htop]
  exact ⟨⟨ht.del, by rw [ht.stack, b5], ht.f1, ht.f2, fun k => by rw [ht.t1, b3], fun k => by rw [ht.t2, b4], b1, b2⟩,
    rfl, rfl, rfl, rfl, c', rfl, hc⟩

/-- function-level code in front of instruction `idx`: the entry code (followed by the opener of the wrapper block when there is exit
    code) in front of instruction 0; the exit code in front of every instruction that leaves the function, and — behind the `end` that
    closes the wrapper — in front of the final `end` -/
def fnPre (last : Nat) (E X : List Tok) (idx : Nat) (i : Instr) : List Tok :=
  (if idx = 0 then E else []) ++
  (if X.isEmpty then [] else if i.kind = .exitLike then X else if idx = last then tEnd :: X else [])

theorem fnPre_lt (last : Nat) (X : List Tok) (idx : Nat) (i : Instr) (hl : idx < last) :
    fnPre last [] X idx i = if i.kind = .exitLike then X else [] := by
  have : ¬ idx = last := by omega
  cases X <;> simp [fnPre, this]

theorem rpre_spec (last : Nat) (s : RState) (done rest : List Instr) (c ins : Instr) (E X : List Tok)
    (hb : s.body = done ++ c :: rest) (hE : s.entry = if done.length = 0 then E else []) (hX : s.exit = X) :
    ∃ c' ex, rpre last s done.length ins = { s with body := done ++ c' :: rest, entry := [], exit := ex }
      ∧ Chg c c' (fnPre last E X done.length ins) [] ∧ (done.length < last → ex = X) := by
  obtain ⟨c1, h1, g1⟩ := rpre1_eq s done rest c E hb hE
  obtain ⟨c2, ex, h2, g2, hex⟩ := rpre2_eq last { s with body := done ++ c1 :: rest, entry := [] } done rest c1 ins rfl
  refine ⟨c2, ex, by rw [rpre_eq, h1, h2], ?_, fun h => (hex h).trans hX⟩
  have := g1.trans g2
  simpa [fnPre, hX] using this

/-- the scope: everything the injection API accepts — block-level lists and block alternates only on
    `block` / `loop` / `if` / `else`, semantic-after also on branches -/
structure PlainF (i : Instr) : Prop where
  altOnly : i.blockAlt.isSome = true → i.kind.isBlockStyle = true
  only : i.kind.isBlockStyle = false → i.blockEntry = [] ∧ i.blockExit = []
  semOnly : i.kind.isBlockStyle = false → i.kind.isBranching = false → i.semAfter = []

def flaggedBranch (i : Instr) : Bool := i.kind.isBranching && !i.semAfter.isEmpty

theorem flaggedBranch_true {i : Instr} (h : flaggedBranch i = true) : i.kind.isBranching = true ∧ i.semAfter ≠ [] := by
  simp only [flaggedBranch, Bool.and_eq_true, Bool.not_eq_true'] at h
  exact ⟨h.1, fun e => by simp [e] at h⟩

theorem PlainF.plainA {i : Instr} (h : PlainF i) (hf : flaggedBranch i = false) : PlainA i := by
  refine ⟨h.altOnly, fun hb => ?_⟩
  obtain ⟨h1, h2⟩ := h.only hb
  refine ⟨?_, h1, h2⟩
  cases hbr : i.kind.isBranching with
  | false => exact h.semOnly hb hbr
  | true =>
    simp only [flaggedBranch, hbr, Bool.true_and, Bool.not_eq_false'] at hf
    exact List.isEmpty_iff.mp hf

/-- one instruction of the complete machine: frames, removal state, next free local, code in front (behind the instruction's `before`
    list and the function-level code), what stands in place of the token, code behind (behind the instruction's `after` list) -/
def specStepF (fr : List Fr) (del : Option Del) (nl : Nat) (i : Instr) :
    Option (List Fr × Option Del × Nat × List Tok × Option (List Tok) × List Tok) :=
  if flaggedBranch i then
    match del with
    | some _ => some (fr, del, nl, [], some [], [])
    | none =>
      if fr.isEmpty then none
      else
        some (parkAllF fr (fr.length - 1) (i.semAfter, nl) (branchTargets i.kind), none, nl + 1, [tConst 1, tLocalSet nl], i.alt,
          [tConst 0, tLocalSet nl] ++ (match i.kind with | .brIf _ => i.semAfter | _ => []))
  else (specStepA fr del i).map (fun r => (r.1, r.2.1, nl, r.2.2.1, r.2.2.2.1, r.2.2.2.2))

theorem specStepF_unflagged {fr : List Fr} {del : Option Del} {nl : Nat} {i : Instr} (hf : flaggedBranch i = false) :
    specStepF fr del nl i = (specStepA fr del i).map (fun r => (r.1, r.2.1, nl, r.2.2.1, r.2.2.2.1, r.2.2.2.2)) := by
  simp only [specStepF, hf, Bool.false_eq_true, if_false]

theorem specStepF_flagged_removed {fr : List Fr} {d : Del} {nl : Nat} {i : Instr} (hf : flaggedBranch i = true) :
    specStepF fr (some d) nl i = some (fr, some d, nl, [], some [], []) := by
  simp only [specStepF, hf, if_true]

theorem specStepF_flagged {fr : List Fr} {nl : Nat} {i : Instr} (hf : flaggedBranch i = true) (hfr : fr ≠ []) :
    specStepF fr none nl i
      = some (parkAllF fr (fr.length - 1) (i.semAfter, nl) (branchTargets i.kind), none, nl + 1, [tConst 1, tLocalSet nl], i.alt,
          [tConst 0, tLocalSet nl] ++ notTaken i) := by
  have hfe : fr.isEmpty = false := by cases fr with | nil => exact absurd rfl hfr | cons _ _ => rfl
  simp only [specStepF, hf, hfe, if_true, Bool.false_eq_true, if_false, notTaken]

theorem specStepF_other {fr : List Fr} {nl : Nat} {i : Instr} (hf : flaggedBranch i = false) (hb : i.kind.isBlockStyle = false)
    (he : i.kind ≠ .end_) : specStepF fr none nl i = some (fr, none, nl, [], i.alt, []) := by
  rw [specStepF_unflagged hf]
  cases hk : i.kind <;> simp_all [specStepA, Kind.isBlockStyle]

theorem specStepF_open {fr : List Fr} {nl : Nat} {i : Instr} (hk : i.kind = .block ∨ i.kind = .loop) (hba : i.blockAlt = none) :
    specStepF fr none nl i = some ({ exitB := i.blockExit, afterA := i.semAfter } :: fr, none, nl, [], i.alt, i.blockEntry) := by
  rcases hk with h | h <;> simp [specStepF, flaggedBranch, specStepA, h, hba, Kind.isBranching]

theorem specStepF_if {fr : List Fr} {nl : Nat} {i : Instr} (hk : i.kind = .if_) (hba : i.blockAlt = none) :
    specStepF fr none nl i = some ({ ifExit := i.blockExit, afterA := i.semAfter } :: fr, none, nl, [], i.alt, i.blockEntry) := by
  simp [specStepF, flaggedBranch, specStepA, hk, hba, Kind.isBranching]

theorem specStepF_else {top : Fr} {fr : List Fr} {nl : Nat} {i : Instr} (hk : i.kind = .else_) (hba : i.blockAlt = none)
    (hfr : fr ≠ []) :
    specStepF (top :: fr) none nl i
      = some ({ top with ifExit := [], exitB := top.exitB ++ i.blockExit, afterA := top.afterA ++ i.semAfter } :: fr, none, nl,
          top.ifExit, i.alt, i.blockEntry) := by
  cases fr with
  | nil => exact absurd rfl hfr
  | cons below fr => simp [specStepF, flaggedBranch, specStepA, hk, hba, Kind.isBranching]

theorem specStepF_end {top : Fr} {fr : List Fr} {nl : Nat} {i : Instr} (hk : i.kind = .end_) :
    specStepF (top :: fr) none nl i = some (fr, none, nl, top.ifExit ++ top.exitB, i.alt, endAfter top) := by
  simp [specStepF, flaggedBranch, specStepA, hk, Kind.isBranching]

/-- the encoded function according to the complete machine, and the first local index the lowering did not use -/
def specRunF (last : Nat) (E X : List Tok) : Nat → List Fr → Option Del → Nat → List Instr → Option (List Tok × Nat)
  | _, fr, _, nl, [] => if fr.isEmpty then some ([], nl) else none
  | idx, fr, del, nl, i :: is =>
    match specStepF fr del nl i with
    | none => none
    | some (fr', del', nl', b, alt, a) =>
      if fr'.isEmpty && !is.isEmpty then none
      else
        match specRunF last E X (idx + 1) fr' del' nl' is with
        | none => none
        | some (rest, nlf) =>
          some (i.before ++ fnPre last E X idx i ++ b ++ (if idx ≥ last then [i.tok] else alt.getD [i.tok])
                 ++ (if idx ≥ last then [] else i.after ++ a) ++ rest, nlf)

theorem specRunF_cons_of_frames {last : Nat} {E X : List Tok} {idx : Nat} {fr : List Fr} {del : Option Del} {nl : Nat} {xs : List Instr}
    {r : List Tok × Nat} (h : specRunF last E X idx fr del nl xs = some r) (hfr : fr ≠ []) : xs ≠ [] := by
  rintro rfl
  have : fr.isEmpty = false := by simpa using hfr
  simp [specRunF, this] at h

theorem specRunF_cons {last : Nat} {E X : List Tok} {idx : Nat} {fr : List Fr} {del : Option Del} {nl : Nat} {i : Instr} {is : List Instr}
    {out : List Tok} {nlf : Nat} (h : specRunF last E X idx fr del nl (i :: is) = some (out, nlf)) :
    ∃ fr' del' nl' b alt a rest, specStepF fr del nl i = some (fr', del', nl', b, alt, a) ∧ (fr' ≠ [] ∨ is = [])
      ∧ specRunF last E X (idx + 1) fr' del' nl' is = some (rest, nlf)
      ∧ out = i.before ++ fnPre last E X idx i ++ b ++ (if idx ≥ last then [i.tok] else alt.getD [i.tok])
                ++ (if idx ≥ last then [] else i.after ++ a) ++ rest := by
  rw [specRunF] at h
  split at h
  · cases h
  rename_i fr' del' nl' b alt a h1
  split at h
  · cases h
  rename_i hg
  split at h
  · cases h
  rename_i rest nlr h2
  cases h
  exact ⟨fr', del', nl', b, alt, a, rest, h1, not_closed_early hg, h2, rfl⟩

theorem rcoreF_tied (s : RState) (fr : List Fr) (del : Option Del) (done rest : List Instr) (c ins : Instr) (hp : PlainF ins)
    (hca : c.alt = ins.alt) (ht : TiedA s fr del) (hb : s.body = done ++ c :: rest) (fr' : List Fr) (del' : Option Del) (nl' : Nat)
    (B : List Tok) (alt : Option (List Tok)) (A : List Tok) (hs : specStepF fr del s.nlocals ins = some (fr', del', nl', B, alt, A)) :
    let s' := rcore s done.length ins
    TiedA s' fr' del' ∧ s'.nlocals = nl' ∧ s'.added + s.nlocals = s.added + nl' ∧ s'.entry = s.entry ∧ s'.exit = s.exit
      ∧ ∃ c', s'.body = done ++ c' :: rest ∧ ChgA c c' B alt A := by
  cases hf : flaggedBranch ins with
  | false =>
    rw [specStepF_unflagged hf, Option.map_eq_some_iff] at hs
    obtain ⟨⟨r1, r2, r3, r4, r5⟩, hr, he⟩ := hs
    cases he
    obtain ⟨htied, hkeep, hc⟩ := rcoreA_tied s fr del done rest c ins (hp.plainA hf) hca ht hb _ _ _ _ _ hr
    exact ⟨htied, hkeep.nlocals, by rw [hkeep.added], hkeep.entry, hkeep.exit, hc⟩
  | true =>
    obtain ⟨hbr, hsem⟩ := flaggedBranch_true hf
    obtain ⟨he, hx⟩ := hp.only (branching_not_blockStyle hbr)
    cases del with
    | some dl =>
      -- inside removed code the branch is emptied like any other instruction
      rw [specStepF_flagged_removed hf] at hs
      cases hs
      obtain ⟨htied, hkeep, hbody⟩ := rcoreA_removed_other s fr dl done rest c ins ht hb (branching_flat hbr)
      exact ⟨htied, hkeep.nlocals, by rw [hkeep.added], hkeep.entry, hkeep.exit, mark c, hbody, mark_chgA c⟩
    | none =>
      cases fr with
      | nil => simp [specStepF, hf] at hs
      | cons f fr0 =>
        rw [specStepF_flagged hf (List.cons_ne_nil _ _)] at hs
        cases hs
        obtain ⟨htied, hnl, hadded, hentry, hexit, c', hbody, hchg⟩ :=
          rcore_branch s (f :: fr0) done rest c ins ht.tied (List.cons_ne_nil _ _) hbr hsem he hx hb
        -- one local (the flag) and one count more
        exact ⟨htied.tiedA, hnl, by rw [hadded]; omega, hentry, hexit, c', hbody, hchg.chgA hca⟩

theorem rpre_exit_nil (last : Nat) (s : RState) (idx : Nat) (ins : Instr) (h : s.exit = []) : (rpre last s idx ins).exit = [] := by
  -- neither stage touches an empty exit code: the first leaves `exit` alone, the second does nothing
  have h1 : (rpre1 s idx).exit = [] := by unfold rpre1; split <;> exact h
  rw [rpre_eq, rpre2, h1]
  exact h1

/-- The bound on `last` is needed only when there is exit code: it is what keeps the exit code pending until the last instruction. -/
theorem rloopF_tied (last : Nat) (E X : List Tok) : ∀ (xs : List Instr) (s : RState) (fr : List Fr) (del : Option Del) (done : List Instr)
    (out : List Tok) (nlf : Nat),
    (∀ x ∈ xs, PlainF x) → TiedA s fr del → s.entry = (if done.length = 0 then E else []) → (xs ≠ [] → s.exit = X) →
    s.body = done ++ xs → X = [] ∨ done.length + xs.length ≤ last + 1 → specRunF last E X done.length fr del s.nlocals xs = some (out, nlf) →
    let s' := rloop last s done.length xs
    ∃ done', s'.body = done ++ done' ∧ done'.length = xs.length ∧ emitFrom last done.length done' = out ∧ s'.nlocals = nlf
      ∧ s'.added + s.nlocals = s.added + nlf := by
  intro xs
  induction xs with
  | nil =>
    intro s fr del done out nlf _ _ _ _ hb _ hs
    simp only [specRunF] at hs
    split at hs
    · cases hs
      exact ⟨[], by simpa [rloop] using hb, rfl, rfl, rfl, rfl⟩
    · cases hs
  | cons x xs ih =>
    intro s fr del done out nlf hp ht hen hex hb hlen hs
    obtain ⟨fr', del', nl', B, alt, A, outr, h1, -, h2, rfl⟩ := specRunF_cons hs
    -- the iteration is `rpre` (function-level code in front of `x`, tables untouched), then the core: one step of the machine
    obtain ⟨c1, ex, hpre, hchg1, hex1⟩ := rpre_spec last s done xs x x E X hb hen (hex (by simp))
    have ht1 : TiedA (rpre last s done.length x) fr del := by rw [hpre]; exact ht.congr rfl rfl rfl rfl rfl rfl
    obtain ⟨htied, hnl, hadded, hentry, hexit, c', hbody, hchg⟩ :=
      rcoreF_tied (rpre last s done.length x) fr del done xs c1 x (hp x (List.mem_cons_self ..)) hchg1.alt_eq ht1 (by rw [hpre])
        fr' del' nl' B alt A (by rw [hpre]; exact h1)
    rw [← rstep_eq] at htied hnl hadded hentry hexit hbody
    have hlenc : (done ++ [c']).length = done.length + 1 := by simp
    obtain ⟨d', ebody, elen, eemit, enl, eadded⟩ := ih (rstep last s done.length x) fr' del' (done ++ [c']) outr nlf
      (fun y hy => hp y (List.mem_cons_of_mem _ hy)) htied
      (by rw [hentry, hpre, hlenc]; simp)
      (fun hne => by
        -- instructions follow, so this was not index `last`, where `rpre` clears the exit code
        rw [hexit]
        rcases hlen with hX | hlen
        · rw [rpre_exit_nil last s _ x ((hex (by simp)).trans hX), hX]
        · rw [hpre]
          apply hex1
          have : xs.length ≥ 1 := List.length_pos_iff.mpr hne
          simp only [List.length_cons] at hlen; omega)
      (by rw [hbody]; simp) (hlen.imp_right fun h => by rw [hlenc]; simp only [List.length_cons] at h; omega)
      (by rw [hlenc, hnl]; exact h2)
    refine ⟨c' :: d', ?_, by simp [elen], ?_, ?_, ?_⟩
    · simp only [rloop]; rw [← hlenc, ebody]; simp
    · -- `c'` is `x` with `fnPre` and `B` in front, `alt` in its place and `A` behind
      rw [emitFrom_cons, hchg.emitOne, ← hlenc, eemit, hchg1.before_eq, hchg1.after_eq, hchg1.tok_eq, List.append_nil]
    · simp only [rloop]; rw [← hlenc, enl]
    · -- `rpre` leaves `nlocals` and `added` alone; the counts of this iteration and of the rest add up
      simp only [rloop]; rw [← hlenc]
      rw [hpre] at hadded
      rw [hnl] at eadded
      simp only at hadded
      omega

theorem specStepF_stripMode (fr : List Fr) (del : Option Del) (nl : Nat) (i : Instr) :
    specStepF fr del nl (stripMode i) = specStepF fr del nl i := rfl

theorem specRunF_stripMode (last : Nat) (E X : List Tok) : ∀ (xs : List Instr) (idx : Nat) (fr : List Fr) (del : Option Del) (nl : Nat),
    specRunF last E X idx fr del nl (xs.map stripMode) = specRunF last E X idx fr del nl xs := by
  intro xs
  induction xs with
  | nil => intro idx fr del nl; rfl
  | cons x xs ih =>
    intro idx fr del nl
    simp only [List.map_cons, specRunF, specStepF_stripMode]
    cases specStepF fr del nl x with
    | none => rfl
    | some r =>
      have : (xs.map stripMode).isEmpty = xs.isEmpty := by cases xs <;> rfl
      simp only [ih, this]; rfl

theorem lower_eq_specF (f : Func) (hsp : f.hasSpecial = true) (hp : ∀ x ∈ f.body, PlainF x) (out : List Tok) (nlf : Nat)
    (hs : specRunF (f.body.length - 1) (entryToks f) f.exit 0 [{}] none f.nlocals f.body = some (out, nlf)) :
    lower f = (out, f.added + (nlf - f.nlocals)) := by
  rw [lower, resolveSpecial_of_special f hsp]
  dsimp only [emit]
  -- the resolver starts from the body with the last instruction's mode set: named, so that the loop's state is stated over a variable
  generalize hb0 : modifyAt f.body (f.body.length - 1) (fun i => { i with mode := some .before }) = body0
  have hp0 : ∀ x ∈ body0, PlainF x := hb0 ▸ forall_mem_modifyAt hp _ fun _ p => ⟨p.altOnly, p.only, p.semOnly⟩
  have hs0 : specRunF (f.body.length - 1) (entryToks f) f.exit 0 [{}] none f.nlocals body0 = some (out, nlf) := by
    rw [← hb0, ← specRunF_stripMode, map_stripMode_modifyAt, specRunF_stripMode]; exact hs
  have hlen0 : body0.length = f.body.length := by rw [← hb0, modifyAt_length]
  obtain ⟨d', ebody, elen, eemit, enl, eadded⟩ := rloopF_tied (f.body.length - 1) (entryToks f) f.exit body0
    { body := body0, entry := entryToks f, exit := f.exit, nlocals := f.nlocals } [{}] none [] out nlf hp0
    (tied_init body0 (entryToks f) f.exit f.nlocals).tiedA (by simp) (fun _ => rfl) (by simp)
    (.inr (by simp only [List.length_nil, hlen0]; omega)) hs0
  simp only [List.length_nil, List.nil_append] at ebody eemit enl eadded
  -- all that is needed of the final state is in the four equations: as a variable, `rw` and `omega` do not meet the `rloop` term
  generalize rloop (f.body.length - 1) { body := body0, entry := entryToks f, exit := f.exit, nlocals := f.nlocals } 0 body0 = S
    at ebody eemit enl eadded ⊢
  rw [ebody, elen, hlen0, eemit]
  congr 1
  -- `eadded : S.added + f.nlocals = 0 + nlf`
  omega

theorem specRunF_keeps_fn (last : Nat) (E X : List Tok) : ∀ (xs : List Instr) (idx : Nat) (fr : List Fr) (del : Option Del) (nl : Nat)
    (out : List Tok) (nlf : Nat), specRunF last E X idx fr del nl xs = some (out, nlf) → idx + xs.length = last + 1 → xs ≠ [] →
    (∀ t ∈ X, t ∈ out) ∧ (idx = 0 → ∀ t ∈ E, t ∈ out) := by
  intro xs
  induction xs with
  | nil => intro _ _ _ _ _ _ _ _ h; exact absurd rfl h
  | cons x xs ih =>
    intro idx fr del nl out nlf hs hl _
    obtain ⟨fr', del', nl', B, alt, A, outr, -, -, h2, rfl⟩ := specRunF_cons hs
    have inP : ∀ t ∈ fnPre last E X idx x, t ∈ x.before ++ fnPre last E X idx x ++ B ++ (if idx ≥ last then [x.tok] else alt.getD [x.tok])
        ++ (if idx ≥ last then [] else x.after ++ A) ++ outr := fun t ht => mem_emitted (.inl (List.mem_append_right _ ht))
    refine ⟨fun t ht => ?_, fun h0 t ht => inP t (by simp [fnPre, h0, ht])⟩
    by_cases hx : xs = []
    · -- the last instruction
      subst hx
      have hlast : idx = last := by simp at hl; omega
      have hXi : X.isEmpty = false := by cases X with | nil => cases ht | cons _ _ => rfl
      apply inP
      by_cases hk : x.kind = .exitLike <;> simp [fnPre, hXi, hk, hlast, ht]
    · exact List.mem_append_right _
        ((ih (idx + 1) fr' del' nl' outr nlf h2 (by simp only [List.length_cons] at hl; omega) hx).1 t ht)

theorem lower_keeps_fn (f : Func) (hsp : f.hasSpecial = true) (hp : ∀ x ∈ f.body, PlainF x) (out : List Tok) (nlf : Nat)
    (hne : f.body ≠ [])
    (hs : specRunF (f.body.length - 1) (entryToks f) f.exit 0 [{}] none f.nlocals f.body = some (out, nlf)) :
    (∀ t ∈ f.entry, t ∈ (lower f).1) ∧ (∀ t ∈ f.exit, t ∈ (lower f).1) := by
  rw [lower_eq_specF f hsp hp out nlf hs]
  have hl : 0 + f.body.length = f.body.length - 1 + 1 := by
    have : f.body.length ≥ 1 := List.length_pos_iff.mpr hne
    omega
  obtain ⟨k1, k2⟩ := specRunF_keeps_fn (f.body.length - 1) (entryToks f) f.exit f.body 0 [{}] none f.nlocals out nlf hs hl hne
  refine ⟨fun t ht => k2 rfl t ?_, k1⟩
  unfold entryToks
  split <;> simp [ht]

/-- what the encoded function must contain of one instruction's instrumentation, at nesting depth `d` (number of open constructs): its
    `before` code; on a construct its block-entry, block-exit and semantic-after code; on a branch its semantic-after code — unless every
    target of the branch is the function's own label and the branch is not a conditional one (finding F15) -/
def keptOne (d : Nat) (x : Instr) (out : List Tok) : Prop :=
  (∀ t ∈ x.before, t ∈ out)
  ∧ (x.kind.isBlockStyle = true → ∀ t, t ∈ x.blockEntry ∨ t ∈ x.blockExit ∨ t ∈ x.semAfter → t ∈ out)
  ∧ (flaggedBranch x = true → ((∃ n, x.kind = .brIf n) ∨ ∃ t ∈ branchTargets x.kind, t < d) → ∀ t ∈ x.semAfter, t ∈ out)

def KeptAll : Nat → List Instr → List Tok → Prop
  | _, [], _ => True
  | d, x :: xs, out => keptOne d x out ∧ KeptAll (depthNext x.kind d) xs out

theorem keptOne_mono {d : Nat} {x : Instr} {o o' : List Tok} (h : keptOne d x o) (hs : ∀ t ∈ o, t ∈ o') : keptOne d x o' :=
  ⟨fun t ht => hs t (h.1 t ht), fun hb t ht => hs t (h.2.1 hb t ht), fun hf hc t ht => hs t (h.2.2 hf hc t ht)⟩

theorem KeptAll_mono : ∀ (xs : List Instr) (d : Nat) (o o' : List Tok), KeptAll d xs o → (∀ t ∈ o, t ∈ o') → KeptAll d xs o' := by
  intro xs
  induction xs with
  | nil => intro _ _ _ _ _; trivial
  | cons x xs ih => intro d o o' h hs; exact ⟨keptOne_mono h.1 hs, ih _ o o' h.2 hs⟩

theorem depthNext_branching {k : Kind} (h : k.isBranching = true) (d : Nat) : depthNext k d = d := by
  cases k <;> first | rfl | cases h

/-- `specStep_keeps` for the complete machine outside a removed region: a flagged branch parks its body at the frame of each target, so it
    waits there unless every target is the function's own label (F15), and `br_if` also emits it inline -/
theorem specStepF_keeps {fr fr' : List Fr} {x : Instr} {nl nl' : Nat} {del' : Option Del} {B A : List Tok} {alt : Option (List Tok)}
    (h : specStepF fr none nl x = some (fr', del', nl', B, alt, A)) (hba : x.blockAlt = none) (hfr : fr ≠ []) :
    del' = none ∧ fr'.length - 1 = depthNext x.kind (fr.length - 1)
    ∧ ∀ {out : List Tok}, (∀ t ∈ x.before, t ∈ out) → (∀ t ∈ B, t ∈ out) → (fr' ≠ [] → ∀ t ∈ A, t ∈ out) → (∀ t, Pend fr' t → t ∈ out) →
        (∀ t, Pend fr t → t ∈ out) ∧ keptOne (fr.length - 1) x out := by
  have hpos : 1 ≤ fr.length := List.length_pos_iff.mpr hfr
  cases hf : flaggedBranch x with
  | true =>
    have hbr := (flaggedBranch_true hf).1
    rw [specStepF_flagged hf hfr] at h
    cases h
    -- the frames are as before, except that the targets' `afterFl` lists have grown by the parked body
    obtain ⟨p1, p2⟩ := frAt_parkAllF (fr.length - 1) (x.semAfter, nl) (branchTargets x.kind) fr (by omega)
    have hne : parkAllF fr (fr.length - 1) (x.semAfter, nl) (branchTargets x.kind) ≠ [] := by
      rw [← List.length_pos_iff, p1]; exact hpos
    refine ⟨rfl, ?_, fun {out} hX hB hA hP => ⟨?_, hX, fun hb => ?_, fun _ hc t ht => ?_⟩⟩
    · rw [p1, depthNext_branching hbr]
    · rintro t (⟨k, hk, ht⟩ | ⟨k, h1, hk, ht⟩)
      · exact hP t (.inl ⟨k, by rw [p1]; exact hk, by rw [p2 k]; exact ht⟩)
      · refine hP t (.inr ⟨k, h1, by rw [p1]; exact hk, ?_⟩)
        rw [p2 k]
        exact ht.imp_right fun ⟨e, he, ht⟩ => ⟨e, List.mem_append_left _ he, ht⟩
    · rw [branching_not_blockStyle hbr] at hb; cases hb
    · rcases hc with ⟨n, hn⟩ | ⟨d, hd, hlt⟩
      · exact hA hne t (by simp [notTaken, hn, ht])
      · refine hP t (.inr ⟨fr.length - 1 - d, by omega, by rw [p1]; omega, .inr ⟨(x.semAfter, nl), ?_, ht⟩⟩)
        rw [p2]
        exact List.mem_append_right _ (List.mem_map.mpr ⟨d, List.mem_filter.mpr ⟨hd, by simp⟩, rfl⟩)
  | false =>
    rw [specStepF_unflagged hf, specStepA_plain fr x hba, Option.map_map, Option.map_eq_some_iff] at h
    obtain ⟨⟨r1, r2, r3⟩, hr, he⟩ := h
    simp only [Function.comp, Prod.mk.injEq] at he
    obtain ⟨rfl, rfl, rfl, rfl, rfl, rfl⟩ := he
    obtain ⟨q1, q2⟩ := specStep_keeps hr hfr
    exact ⟨rfl, q1, fun {out} hX hB hA hP => ⟨(q2 hB hA hP).1, hX, (q2 hB hA hP).2, fun h => by rw [hf] at h; cases h⟩⟩

/-- every probe the complete machine is given comes out, for plans without block alternates: what waits in the frames (the function
    body's own frame excepted for code behind its `end`), and of the instructions still to come everything `keptOne` lists -/
theorem specRunF_keeps (last : Nat) (E X : List Tok) : ∀ (xs : List Instr) (idx : Nat) (fr : List Fr) (nl : Nat) (out : List Tok) (nlf : Nat),
    specRunF last E X idx fr none nl xs = some (out, nlf) → (∀ x ∈ xs, x.blockAlt = none) → idx + xs.length ≤ last + 1 →
    fr ≠ [] ∨ xs = [] →
    (∀ k, k < fr.length → ∀ t, t ∈ (frAt fr k).ifExit ∨ t ∈ (frAt fr k).exitB → t ∈ out)
    ∧ (∀ k, 1 ≤ k → k < fr.length → ∀ t, (t ∈ (frAt fr k).afterA ∨ ∃ e ∈ (frAt fr k).afterFl, t ∈ e.1) → t ∈ out)
    ∧ KeptAll (fr.length - 1) xs out := by
  -- the two statements about the frames are `∀ t, Pend fr t → t ∈ out`
  suffices H : ∀ (xs : List Instr) (idx : Nat) (fr : List Fr) (nl : Nat) (out : List Tok) (nlf : Nat),
      specRunF last E X idx fr none nl xs = some (out, nlf) → (∀ x ∈ xs, x.blockAlt = none) → idx + xs.length ≤ last + 1 →
      fr ≠ [] ∨ xs = [] → (∀ t, Pend fr t → t ∈ out) ∧ KeptAll (fr.length - 1) xs out by
    intro xs idx fr nl out nlf hs hna hl hfr
    obtain ⟨h1, h2⟩ := H xs idx fr nl out nlf hs hna hl hfr
    exact ⟨fun k hk t ht => h1 t (.inl ⟨k, hk, ht⟩), fun k hk1 hk t ht => h1 t (.inr ⟨k, hk1, hk, ht⟩), h2⟩
  intro xs
  induction xs with
  | nil =>
    intro idx fr nl out nlf hs _ _ _
    by_cases he : fr = []
    · subst he; exact ⟨fun t ht => (not_Pend_nil t ht).elim, trivial⟩
    · exact absurd rfl (specRunF_cons_of_frames hs he)
  | cons x xs ih =>
    intro idx fr nl out nlf hs hna hl hfr
    have hfr' : fr ≠ [] := hfr.resolve_right (by simp)
    obtain ⟨fr', del', nl', B, alt, A, outr, h1, hxs, h2, rfl⟩ := specRunF_cons hs
    simp only [List.length_cons] at hl
    -- when a frame is left this is not the last instruction, so `A` is emitted
    have hnl : fr' ≠ [] → ¬ idx ≥ last := fun hne => by
      have := List.length_pos_iff.mpr (specRunF_cons_of_frames h2 hne)
      omega
    obtain ⟨rfl, hd, hstep⟩ := specStepF_keeps h1 (hna x (List.mem_cons_self ..)) hfr'
    obtain ⟨ihPend, ihRest⟩ := ih (idx + 1) fr' nl' outr nlf h2 (fun y hy => hna y (List.mem_cons_of_mem _ hy)) (by omega) hxs
    -- the four arguments of `mem_emitted`: `before` code, `B`, `A` (not at the last instruction), the output of the rest
    obtain ⟨hP, hk⟩ := hstep (fun t ht => mem_emitted (.inl (List.mem_append_left _ ht))) (fun t ht => mem_emitted (.inr (.inl ht)))
      (fun hne t ht => mem_emitted (.inr (.inr (.inl ⟨hnl hne, ht⟩)))) (fun t ht => mem_emitted (.inr (.inr (.inr (ihPend t ht)))))
    exact ⟨hP, hk, hd ▸ KeptAll_mono xs _ outr _ ihRest (fun t ht => mem_emitted (.inr (.inr (.inr ht))))⟩

theorem lower_keeps_all_F (f : Func) (hsp : f.hasSpecial = true) (hp : ∀ x ∈ f.body, PlainF x) (hna : ∀ x ∈ f.body, x.blockAlt = none)
    (out : List Tok) (nlf : Nat)
    (hs : specRunF (f.body.length - 1) (entryToks f) f.exit 0 [{}] none f.nlocals f.body = some (out, nlf)) :
    KeptAll 0 f.body (lower f).1 := by
  rw [lower_eq_specF f hsp hp out nlf hs]
  exact (specRunF_keeps (f.body.length - 1) (entryToks f) f.exit f.body 0 [{}] f.nlocals out nlf hs hna (by omega) (.inl (by simp))).2.2

/-- well-nestedness of a flat body, counted on the number of open frames (the function body's own frame included): every `else` sits in
    a construct, every `end` closes something, the function body's frame is closed by the last instruction and by no earlier one -/
def okNest : Nat → List Instr → Bool
  | n, [] => n == 0
  | n, i :: is =>
    match i.kind with
    | .block | .loop | .if_ => okNest (n + 1) is
    | .else_ => decide (2 ≤ n) && okNest n is
    | .end_ => decide (1 ≤ n) && (decide (2 ≤ n) || is.isEmpty) && okNest (n - 1) is
    | _ => (decide (1 ≤ n) || (is.isEmpty && !flaggedBranch i)) && okNest n is

theorem okNest_cons {n : Nat} {i : Instr} {is : List Instr} (h : okNest n (i :: is) = true) :
    (i.kind = .else_ → 2 ≤ n) ∧ (i.kind = .end_ → 1 ≤ n) ∧ (flaggedBranch i = true → 1 ≤ n)
    ∧ okNest (depthNext i.kind n) is = true ∧ (1 ≤ depthNext i.kind n ∨ is.isEmpty = true) := by
  have nofl : i.kind.isBranching = false → flaggedBranch i = true → 1 ≤ n := fun hb hf => by
    simp [flaggedBranch, hb] at hf
  cases hk : i.kind with
  | block | loop | if_ =>
    all_goals
      simp only [okNest, hk] at h
      exact ⟨nofun, nofun, nofl (by rw [hk]; rfl), h, .inl (Nat.le_add_left ..)⟩
  | else_ =>
    simp only [okNest, hk, Bool.and_eq_true, decide_eq_true_eq] at h
    exact ⟨fun _ => h.1, nofun, nofl (by rw [hk]; rfl), h.2, .inl (by show 1 ≤ n; omega)⟩
  | end_ =>
    simp only [okNest, hk, Bool.and_eq_true, Bool.or_eq_true, decide_eq_true_eq] at h
    refine ⟨nofun, fun _ => h.1.1, nofl (by rw [hk]; rfl), h.2, ?_⟩
    rcases h.1.2 with h2 | h2
    · exact .inl (by show 1 ≤ n - 1; omega)
    · exact .inr h2
  | br _ | brIf _ | brTable _ _ | exitLike | other =>
    all_goals
      simp only [okNest, hk, Bool.and_eq_true, Bool.or_eq_true, decide_eq_true_eq, Bool.not_eq_true'] at h
      refine ⟨nofun, nofun, fun hf => ?_, h.2, ?_⟩
      · rcases h.1 with h1 | h1
        · exact h1
        · rw [hf] at h1; cases h1.2
      · rcases h.1 with h1 | h1
        · exact .inl h1
        · exact .inr h1.1

theorem specStepA_some (fr : List Fr) (del : Option Del) (i : Instr) (he : i.kind = .else_ → 2 ≤ fr.length)
    (hn : i.kind = .end_ → 1 ≤ fr.length) :
    ∃ r, specStepA fr del i = some r ∧ r.1.length = depthNext i.kind fr.length := by
  unfold specStepA
  cases hk : i.kind with
  | else_ =>
    match fr, he hk with
    | top :: below :: rest, _ => cases del <;> cases i.blockAlt <;> exact ⟨_, rfl, rfl⟩
  | end_ =>
    match fr, hn hk with
    | top :: rest, _ =>
      cases del with
      | none => exact ⟨_, rfl, rfl⟩
      | some d =>
        obtain ⟨d, r⟩ := d
        dsimp only
        split
        · cases r <;> exact ⟨_, rfl, rfl⟩
        · exact ⟨_, rfl, rfl⟩
  | block | loop | if_ => all_goals cases del <;> cases i.blockAlt <;> exact ⟨_, rfl, rfl⟩
  | br _ | brIf _ | brTable _ _ | exitLike | other => all_goals cases del <;> exact ⟨_, rfl, rfl⟩

theorem specStepF_some (fr : List Fr) (del : Option Del) (nl : Nat) (i : Instr) (he : i.kind = .else_ → 2 ≤ fr.length)
    (hn : i.kind = .end_ → 1 ≤ fr.length) (hf : flaggedBranch i = true → 1 ≤ fr.length) :
    ∃ r, specStepF fr del nl i = some r ∧ r.1.length = depthNext i.kind fr.length := by
  cases hfb : flaggedBranch i with
  | false =>
    obtain ⟨r, hr, hl⟩ := specStepA_some fr del i he hn
    exact ⟨_, by rw [specStepF_unflagged hfb, hr]; rfl, hl⟩
  | true =>
    have hpos : 1 ≤ fr.length := hf hfb
    rw [depthNext_branching (flaggedBranch_true hfb).1]
    cases del with
    | some d => exact ⟨_, specStepF_flagged_removed hfb, rfl⟩
    | none =>
      exact ⟨_, specStepF_flagged hfb (List.length_pos_iff.mp hpos), (frAt_parkAllF (fr.length - 1) _ _ fr (by omega)).1⟩

/-- `okNest` is sufficient for the hypothesis `specRunF … = some _` of the refinement theorems, with any plan and in any removal state -/
theorem specRunF_total (last : Nat) (E X : List Tok) : ∀ (xs : List Instr) (idx : Nat) (fr : List Fr) (del : Option Del) (nl : Nat),
    okNest fr.length xs = true → ∃ r, specRunF last E X idx fr del nl xs = some r := by
  intro xs
  induction xs with
  | nil =>
    intro idx fr del nl h
    simp only [okNest, beq_iff_eq] at h
    rw [List.length_eq_zero_iff.mp h]
    exact ⟨_, rfl⟩
  | cons x xs ih =>
    intro idx fr del nl h
    obtain ⟨he, hn, hf, hok, hg⟩ := okNest_cons h
    obtain ⟨⟨fr', del', nl', b, alt, a⟩, hs, hl⟩ := specStepF_some fr del nl x he hn hf
    rw [← hl] at hok hg
    obtain ⟨⟨o, n⟩, hr⟩ := ih (idx + 1) fr' del' nl' hok
    have hguard : (fr'.isEmpty && !xs.isEmpty) = false := by
      rcases hg with hg | hg
      · cases fr' with | nil => simp at hg | cons _ _ => rfl
      · rw [hg]; simp
    exact ⟨_, by simp only [specRunF, hs, hguard, Bool.false_eq_true, if_false, hr]; rfl⟩

theorem lower_is_machine (f : Func) (hsp : f.hasSpecial = true) (hp : ∀ x ∈ f.body, PlainF x) (hn : okNest 1 f.body = true) :
    ∃ out nlf, specRunF (f.body.length - 1) (entryToks f) f.exit 0 [{}] none f.nlocals f.body = some (out, nlf)
      ∧ lower f = (out, f.added + (nlf - f.nlocals)) := by
  obtain ⟨⟨out, nlf⟩, hr⟩ := specRunF_total (f.body.length - 1) (entryToks f) f.exit f.body 0 [{}] none f.nlocals hn
  exact ⟨out, nlf, hr, lower_eq_specF f hsp hp out nlf hr⟩

theorem specRunA_plain (last : Nat) : ∀ (xs : List Instr) (idx : Nat) (fr : List Fr), (∀ x ∈ xs, x.blockAlt = none) →
    specRunA last idx fr none xs = specRun last idx fr xs := by
  intro xs
  induction xs with
  | nil => intro _ _ _; rfl
  | cons x xs ih =>
    intro idx fr h
    rw [specRunA, specRun, specStepA_plain fr x (h x (List.mem_cons_self ..))]
    cases specStep fr x with
    | none => rfl
    | some r => simp only [Option.map_some, ih _ _ (fun y hy => h y (List.mem_cons_of_mem _ hy))]; rfl

theorem fnPre_nil (last idx : Nat) (i : Instr) : fnPre last [] [] idx i = [] := by
  unfold fnPre
  split <;> rfl

theorem specRunF_plainA (last : Nat) : ∀ (xs : List Instr) (idx : Nat) (fr : List Fr) (del : Option Del) (nl : Nat),
    (∀ x ∈ xs, flaggedBranch x = false) →
    specRunF last [] [] idx fr del nl xs = (specRunA last idx fr del xs).map (·, nl) := by
  intro xs
  induction xs with
  | nil => intro _ fr _ _ _; rw [specRunF, specRunA]; split <;> rfl
  | cons x xs ih =>
    intro idx fr del nl h
    rw [specRunF, specRunA, specStepF_unflagged (h x (List.mem_cons_self ..)), fnPre_nil, List.append_nil]
    cases specStepA fr del x with
    | none => rfl
    | some r =>
      obtain ⟨fr', del', b, alt, a⟩ := r
      dsimp only [Option.map_some]
      rw [ih _ _ _ _ (fun y hy => h y (List.mem_cons_of_mem _ hy))]
      split
      · rfl
      · cases specRunA last (idx + 1) fr' del' xs <;> rfl

theorem PlainA.plainF {i : Instr} (h : PlainA i) : PlainF i ∧ flaggedBranch i = false := by
  refine ⟨⟨h.altOnly, fun hb => (h.only hb).2, fun hb _ => (h.only hb).1⟩, ?_⟩
  cases hb : i.kind.isBranching with
  | false => simp [flaggedBranch, hb]
  | true => simp [flaggedBranch, (h.only (branching_not_blockStyle hb)).1]

theorem lower_eq_specA (f : Func) (hsp : f.hasSpecial = true) (hentry : f.entry = []) (hexit : f.exit = [])
    (hp : ∀ x ∈ f.body, PlainA x) (out : List Tok) (hs : specRunA (f.body.length - 1) 0 [{}] none f.body = some out) :
    lower f = (out, f.added) := by
  have hE : entryToks f = [] := by simp [entryToks, hentry, hexit]
  have := lower_eq_specF f hsp (fun x hx => (hp x hx).plainF.1) out f.nlocals
    (by rw [hE, hexit, specRunF_plainA _ _ _ _ _ _ (fun x hx => (hp x hx).plainF.2), hs]; rfl)
  -- no flagged branch, so no local is added: `nlf = f.nlocals`
  rwa [Nat.sub_self, Nat.add_zero] at this

theorem lower_eq_spec (f : Func) (hsp : f.hasSpecial = true) (hentry : f.entry = []) (hexit : f.exit = [])
    (hp : ∀ x ∈ f.body, Plain x) (out : List Tok) (hs : specRun (f.body.length - 1) 0 [{}] f.body = some out) :
    lower f = (out, f.added) :=
  lower_eq_specA f hsp hentry hexit (fun x hx => (hp x hx).plainA) out
    (by rw [specRunA_plain _ _ _ _ (fun x hx => (hp x hx).blockAlt)]; exact hs)

theorem rloop_tied (last : Nat) : ∀ (xs : List Instr) (s : RState) (fr : List Fr) (done : List Instr) (out : List Tok),
    (∀ x ∈ xs, Plain x) → Tied s fr → s.entry = [] → s.exit = [] → s.body = done ++ xs → specRun last done.length fr xs = some out →
    let s' := rloop last s done.length xs
    ∃ done', s'.body = done ++ done' ∧ done'.length = xs.length ∧ emitFrom last done.length done' = out ∧ s'.added = s.added
      ∧ s'.nlocals = s.nlocals := by
  intro xs s fr done out hp ht hen hex hb hs
  have hpA : ∀ x ∈ xs, PlainA x := fun x hx => (hp x hx).plainA
  obtain ⟨d', ebody, elen, eemit, enl, eadded⟩ := rloopF_tied last [] [] xs s fr none done out s.nlocals (fun x hx => (hpA x hx).plainF.1) ht.tiedA
    (by rw [hen]; split <;> rfl) (fun _ => hex) hb (.inl rfl)
    (by rw [specRunF_plainA _ _ _ _ _ _ (fun x hx => (hpA x hx).plainF.2), specRunA_plain _ _ _ _ (fun x hx => (hp x hx).blockAlt), hs]; rfl)
  exact ⟨d', ebody, elen, eemit, by omega, enl⟩

theorem specRunF_entry_irrelevant (last : Nat) (E X : List Tok) :
    ∀ (xs : List Instr) (idx : Nat) (fr : List Fr) (del : Option Del) (nl : Nat),
      idx ≠ 0 → specRunF last E X idx fr del nl xs = specRunF last [] X idx fr del nl xs := by
  intro xs
  induction xs with
  | nil => intro _ _ _ _ _; rfl
  | cons x xs ih =>
    intro idx fr del nl h0
    have hp : fnPre last E X idx x = fnPre last [] X idx x := by simp [fnPre, h0]
    simp only [specRunF, hp, ih (idx + 1) _ _ _ (by omega)]

end Orca.Lower
