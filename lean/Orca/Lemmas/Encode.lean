import Orca.Lemmas.Edit
/-!
`encode_spec`: every reference `encode` emits designates the live entity its stored id designated, or `encode` panics and some stored
reference dangles. Two halves that do not know of each other. The reference pass `fixAll` is a traversal of `allRefs` by `mapRef`: what
it emits is the image of a stored reference, and it fails only where `mapRef` does (`fixAll_mem`, `fixAll_of_forall`, `fixAll_none`).
What `mapRef` does to one reference follows from what the first encode step leaves in the three vectors (`Remapped`, Lemmas/Edit.lean).
-/
namespace Orca.Edit
open Orca.Reindex

/-- the entity an emitted reference designates in the encoded module -/
def designated (F G M : List Nat) (r : Ref) : Option Nat :=
  match r.sp with
  | .F => F[r.idx]?
  | .G => G[r.idx]?
  | .M => M[r.idx]?

/-- the stored index of `r` designates the live entity `u` (positions are ids before encoding) -/
def PointsTo (s : St) (r : Ref) (u : Nat) : Prop :=
  ∃ item, (s.space r.sp).items[r.idx]? = some item ∧ item.del = false ∧ item.uid = u

/-- the stored index of `r` designates nothing, or an entity marked deleted -/
def Dangling (s : St) (r : Ref) : Prop :=
  ∀ item, (s.space r.sp).items[r.idx]? = some item → item.del = true

def allRefs (s : St) : List Ref :=
  s.ginit.flatMap (fun (p : Nat × List Ref) => p.2) ++ s.exports.map (fun (e : Ref × Bool) => e.1) ++ s.elems ++ s.raws
    ++ s.code.flatMap (fun (p : Nat × List Ref) => p.2)
    ++ s.datas.flatMap (fun (d : Ref × List Ref) => d.1 :: d.2) ++ s.start.toList

theorem forall_allRefs {s : St} {P : Ref → Prop} : (∀ r ∈ allRefs s, P r) ↔
    (∀ p ∈ s.ginit, ∀ r ∈ p.2, P r) ∧ (∀ e ∈ s.exports, P e.1) ∧ (∀ r ∈ s.elems, P r) ∧ (∀ r ∈ s.raws, P r)
      ∧ (∀ p ∈ s.code, ∀ r ∈ p.2, P r) ∧ (∀ d ∈ s.datas, P d.1 ∧ ∀ r ∈ d.2, P r) ∧ (∀ r ∈ s.start, P r) := by
  simp only [allRefs, List.forall_mem_append, List.mem_flatMap, List.mem_map, List.mem_cons, Option.mem_toList,
    forall_exists_index, and_imp, and_assoc]
  constructor
  · rintro ⟨a, b, c, d, e, f, g⟩
    exact ⟨fun p hp r hr => a r p hp hr, fun e he => b _ e he rfl, c, d, fun p hp r hr => e r p hp hr,
      fun x hx => ⟨f _ x hx (.inl rfl), fun r hr => f r x hx (.inr hr)⟩, g⟩
  · rintro ⟨a, b, c, d, e, f, g⟩
    exact ⟨fun r p hp hr => a p hp r hr, fun r e he h => h ▸ b e he, c, d, fun r p hp hr => e p hp r hr,
      fun r x hx h => h.elim (fun h => h ▸ (f x hx).1) ((f x hx).2 r), g⟩

theorem start_mem_allRefs {s : St} {r : Ref} (h : s.start = some r) : r ∈ allRefs s :=
  List.mem_append_right _ (by rw [h]; exact List.mem_singleton.mpr rfl)

theorem mapM_eq_some_iff {α β : Type} {f : α → Option β} {l : List α} {l' : List β} :
    l.mapM f = some l' ↔ l.map f = l'.map some := by
  induction l generalizing l' with
  | nil => cases l' <;> simp
  | cons a l ih =>
    cases l' with
    | nil => simp [List.mapM_cons, Option.bind_eq_some_iff]
    | cons b l' => simp [List.mapM_cons, Option.bind_eq_some_iff, ← ih]

theorem mapM_some_mem {α β : Type} {f : α → Option β} {l : List α} {l' : List β} (h : l.mapM f = some l') :
    ∀ y ∈ l', ∃ x ∈ l, f x = some y := by
  intro y hy
  have : some y ∈ l.map f := mapM_eq_some_iff.mp h ▸ List.mem_map_of_mem hy
  exact List.mem_map.mp this

theorem mapM_congr_some {α β : Type} (l : List α) (f : α → Option β) (g : α → β) (h : ∀ x ∈ l, f x = some (g x)) :
    l.mapM f = some (l.map g) :=
  mapM_eq_some_iff.mpr (by rw [List.map_map]; exact List.map_congr_left h)

theorem mapM_none_witness {α β : Type} {f : α → Option β} : ∀ {l : List α}, l.mapM f = none → ∃ x ∈ l, f x = none := by
  intro l h
  cases hany : l.any (fun x => (f x).isNone) with
  | true =>
    obtain ⟨x, hx, hfx⟩ := List.any_eq_true.mp hany
    exact ⟨x, hx, Option.isNone_iff_eq_none.mp hfx⟩
  | false =>
    -- all succeed: the results are `l.filterMap f`
    rw [(mapM_eq_some_iff (l' := l.filterMap f)).mpr (by
      rw [List.map_filterMap_some_eq_filter_map_isSome, List.filter_eq_self.mpr]
      intro b hb
      obtain ⟨x, hx, rfl⟩ := List.mem_map.mp hb
      exact Option.isSome_iff_ne_none.mpr (fun e => List.any_eq_false.mp hany x hx (Option.isNone_iff_eq_none.mpr e)))] at h
    cases h

theorem lookup_subset (tbl : List (Nat × List Ref)) (u : Nat) :
    ∀ r ∈ lookup tbl u, ∃ p ∈ tbl, r ∈ p.2 := by
  intro r hr
  unfold lookup at hr
  split at hr
  · rename_i p hp
    exact ⟨p, List.mem_of_find?_eq_some hp, hr⟩
  · simp at hr

variable {s : St} {fi gi mi : List Item}

theorem fixAll_eq_some {x : Fixed} : fixAll fi gi mi s = some x ↔
    fixOwned fi gi mi s.ginit (emittedLocals gi) = some x.ginit
    ∧ ((s.exports.filter (fun (e : Ref × Bool) => !e.2)).map (fun (e : Ref × Bool) => e.1)).mapM (mapRef fi gi mi) = some x.exps
    ∧ mapRefs fi gi mi s.elems = some x.elems ∧ mapRefs fi gi mi s.raws = some x.raws
    ∧ fixOwned fi gi mi s.code (emittedLocals fi) = some x.code
    ∧ s.datas.mapM (fixData fi gi mi) = some x.datas := by
  obtain ⟨a, b, c, d, e, f⟩ := x
  simp only [fixAll, Option.bind_eq_some_iff, Option.some.injEq, Fixed.mk.injEq]
  constructor
  · rintro ⟨_, h1, _, h2, _, h3, _, h4, _, h5, _, h6, rfl, rfl, rfl, rfl, rfl, rfl⟩
    exact ⟨h1, h2, h3, h4, h5, h6⟩
  · rintro ⟨h1, h2, h3, h4, h5, h6⟩
    exact ⟨_, h1, _, h2, _, h3, _, h4, _, h5, _, h6, rfl, rfl, rfl, rfl, rfl, rfl⟩

theorem fixOwned_mem {tbl out : List (Nat × List Ref)} {owners : List Nat} (h : fixOwned fi gi mi tbl owners = some out) :
    ∀ p' ∈ out, ∀ r' ∈ p'.2, ∃ p ∈ tbl, ∃ r ∈ p.2, mapRef fi gi mi r = some r' := by
  intro p' hp' r' hr'
  obtain ⟨u, _, hu⟩ := mapM_some_mem h p' hp'
  obtain ⟨rs, hrs, rfl⟩ := Option.map_eq_some_iff.mp hu
  obtain ⟨r, hr, hm⟩ := mapM_some_mem hrs r' hr'
  obtain ⟨p, hp, hrp⟩ := lookup_subset tbl u r hr
  exact ⟨p, hp, r, hrp, hm⟩

theorem fixAll_mem {x : Fixed} (hx : fixAll fi gi mi s = some x) :
    ∀ r' ∈ x.resolved, ∃ r ∈ allRefs s, mapRef fi gi mi r = some r' := by
  obtain ⟨h1, h2, h3, h4, h5, h6⟩ := fixAll_eq_some.mp hx
  obtain ⟨a1, a2, a3, a4, a5, a6, _⟩ := forall_allRefs.mp (fun r (h : r ∈ allRefs s) => h)
  simp only [Fixed.resolved, List.forall_mem_append, List.mem_flatMap, forall_exists_index, and_imp, and_assoc]
  refine ⟨fun r' p' hp' hr' => ?_, fun r' hr' => ?_, fun r' hr' => ?_, fun r' hr' => ?_, fun r' p' hp' hr' => ?_,
    fun r' d' hd' hr' => ?_⟩
  · obtain ⟨p, hp, r, hr, hm⟩ := fixOwned_mem h1 p' hp' r' hr'
    exact ⟨r, a1 p hp r hr, hm⟩
  · obtain ⟨r, hr, hm⟩ := mapM_some_mem h2 r' hr'
    obtain ⟨e, he, rfl⟩ := List.mem_map.mp hr
    exact ⟨e.1, a2 e (List.mem_filter.mp he).1, hm⟩
  · obtain ⟨r, hr, hm⟩ := mapM_some_mem h3 r' hr'
    exact ⟨r, a3 r hr, hm⟩
  · obtain ⟨r, hr, hm⟩ := mapM_some_mem h4 r' hr'
    exact ⟨r, a4 r hr, hm⟩
  · obtain ⟨p, hp, r, hr, hm⟩ := fixOwned_mem h5 p' hp' r' hr'
    exact ⟨r, a5 p hp r hr, hm⟩
  · obtain ⟨d, hd, hfd⟩ := mapM_some_mem h6 d' hd'
    unfold fixData at hfd
    split at hfd
    · rename_i off mem hoff hmem
      cases hfd
      rcases List.mem_cons.mp hr' with rfl | hr'
      · exact ⟨d.1, (a6 d hd).1, hmem⟩
      · obtain ⟨r, hr, hm⟩ := mapM_some_mem hoff r' hr'
        exact ⟨r, (a6 d hd).2 r hr, hm⟩
    · cases hfd

theorem fixAll_of_forall (g : Ref → Ref) (h : ∀ r ∈ allRefs s, mapRef fi gi mi r = some (g r)) :
    fixAll fi gi mi s = some
      { ginit := (emittedLocals gi).map (fun u => (u, (lookup s.ginit u).map g)),
        exps := ((s.exports.filter (fun (e : Ref × Bool) => !e.2)).map (fun (e : Ref × Bool) => e.1)).map g,
        elems := s.elems.map g, raws := s.raws.map g,
        code := (emittedLocals fi).map (fun u => (u, (lookup s.code u).map g)),
        datas := s.datas.map (fun d => ((d.1, d.2.map g), g d.1)) } := by
  obtain ⟨a1, a2, a3, a4, a5, a6, _⟩ := forall_allRefs.mp h
  have owned : ∀ (tbl : List (Nat × List Ref)) (owners : List Nat), (∀ p ∈ tbl, ∀ r ∈ p.2, mapRef fi gi mi r = some (g r)) →
      fixOwned fi gi mi tbl owners = some (owners.map (fun u => (u, (lookup tbl u).map g))) := by
    intro tbl owners ht
    refine mapM_congr_some _ _ _ (fun u _ => ?_)
    rw [mapRefs, mapM_congr_some _ _ g (fun r hr => ?_)]; rfl
    obtain ⟨p, hp, hrp⟩ := lookup_subset tbl u r hr
    exact ht p hp r hrp
  refine fixAll_eq_some.mpr ⟨owned _ _ a1, mapM_congr_some _ _ g (fun r hr => ?_), mapM_congr_some _ _ g a3,
    mapM_congr_some _ _ g a4, owned _ _ a5, mapM_congr_some _ _ _ (fun d hd => ?_)⟩
  · obtain ⟨e, he, rfl⟩ := List.mem_map.mp hr
    exact a2 e (List.mem_filter.mp he).1
  · simp only [fixData, mapRefs, mapM_congr_some _ _ g (a6 d hd).2, (a6 d hd).1]

theorem fixAll_none (h : fixAll fi gi mi s = none) : ∃ r ∈ allRefs s, mapRef fi gi mi r = none := by
  cases hany : (allRefs s).any (fun r => (mapRef fi gi mi r).isNone) with
  | true =>
    obtain ⟨r, hr, hn⟩ := List.any_eq_true.mp hany
    exact ⟨r, hr, Option.isNone_iff_eq_none.mp hn⟩
  | false =>
    -- `mapRef` succeeds on every stored reference `r`, with result `(mapRef … r).getD r`: so does the pass
    rw [fixAll_of_forall (fun r => (mapRef fi gi mi r).getD r) (fun r hr => ?_)] at h
    · cases h
    · cases hr' : mapRef fi gi mi r with
      | none => exact absurd (Option.isNone_iff_eq_none.mpr hr') (List.any_eq_false.mp hany r hr)
      | some _ => rfl

def pick (fi gi mi : List Item) : Sp → List Item
  | .F => fi | .G => gi | .M => mi

def AllRemapped (s : St) (fi gi mi : List Item) : Prop := ∀ sp, Remapped (s.space sp) s.imports sp (pick fi gi mi sp)

-- written to unfold to the `fspace`, `gspace`, `mspace` that `encode` reports: the memory loop of the encoder emits every local
-- memory without testing `deleted`, so the third component is not `outSpace` (`Remapped.outMem`: after `remap` the two agree)
def spaces (s : St) (fi gi mi : List Item) : List Nat × List Nat × List Nat :=
  (outSpace s.imports .F fi, outSpace s.imports .G gi,
    impUids s.imports .M ++ (mi.filter (fun (i : Item) => !i.imp)).map (fun (i : Item) => i.uid))

theorem mapRef_eq (r : Ref) : mapRef fi gi mi r = (mapping (pick fi gi mi r.sp) r.idx).map (fun p => { r with idx := p }) := by
  unfold mapRef pick; cases r.sp <;> rfl

theorem designated_spaces (h : AllRemapped s fi gi mi) (r : Ref) :
    designated (spaces s fi gi mi).1 (spaces s fi gi mi).2.1 (spaces s fi gi mi).2.2 r
      = ((pick fi gi mi r.sp)[r.idx]?).map (·.uid) := by
  have hf : outSpace s.imports .F fi = fi.map (·.uid) := (h .F).out
  have hg : outSpace s.imports .G gi = gi.map (·.uid) := (h .G).out
  have hm : impUids s.imports .M ++ (mi.filter (fun i => !i.imp)).map (·.uid) = mi.map (·.uid) :=
    (h .M).outMem ▸ (h .M).out
  unfold designated spaces
  cases r.sp <;> simp only [pick, hf, hg, hm, List.getElem?_map]

theorem mapRef_live (h : AllRemapped s fi gi mi) (r : Ref) (u : Nat) (hp : PointsTo s r u) :
    ∃ r', mapRef fi gi mi r = some r' ∧ r'.site = r.site ∧ r'.sp = r.sp
      ∧ designated (spaces s fi gi mi).1 (spaces s fi gi mi).2.1 (spaces s fi gi mi).2.2 r' = some u := by
  obtain ⟨item, hi, hd, hu⟩ := hp
  obtain ⟨p, hmp, hyp⟩ := (h r.sp).live r.idx item hi hd
  refine ⟨{ r with idx := p }, by rw [mapRef_eq, hmp]; rfl, rfl, rfl, ?_⟩
  rw [designated_spaces h, hyp, ← hu]; rfl

theorem mapRef_dangling (h : AllRemapped s fi gi mi) (r : Ref) (hd : Dangling s r) : mapRef fi gi mi r = none := by
  rw [mapRef_eq, (h r.sp).dead r.idx hd]; rfl

theorem pointsTo_or_dangling (s : St) (r : Ref) : (∃ u, PointsTo s r u) ∨ Dangling s r := by
  cases hx : (s.space r.sp).items[r.idx]? with
  | none => right; intro item h; rw [hx] at h; cases h
  | some item =>
    cases hdel : item.del with
    | false => left; exact ⟨item.uid, item, hx, hdel, rfl⟩
    | true => right; intro it h; rw [hx] at h; cases h; exact hdel

theorem mapRef_some (h : AllRemapped s fi gi mi) (r r' : Ref) (hm : mapRef fi gi mi r = some r') :
    r'.site = r.site ∧ r'.sp = r.sp ∧ ∃ u, PointsTo s r u
      ∧ designated (spaces s fi gi mi).1 (spaces s fi gi mi).2.1 (spaces s fi gi mi).2.2 r' = some u := by
  rcases pointsTo_or_dangling s r with ⟨u, hp⟩ | hd
  · obtain ⟨r'', h1, h2, h3, h4⟩ := mapRef_live h r u hp
    rw [hm] at h1; cases h1
    exact ⟨h2, h3, u, hp, h4⟩
  · rw [mapRef_dangling h r hd] at hm; cases hm

theorem encode_spec (s : St) (hf : SpaceInv s.f s.imports .F) (hg : SpaceInv s.g s.imports .G)
    (hm : SpaceInv s.m s.imports .M) :
    (∃ s' F G M res st, encode s = (s', Ret.encoded F G M res st)
        ∧ (∀ r' ∈ res ++ st.toList, ∃ r ∈ allRefs s, r'.site = r.site ∧ r'.sp = r.sp
            ∧ ∃ u, PointsTo s r u ∧ designated F G M r' = some u))
    ∨ (∃ s' why, encode s = (s', Ret.panic why) ∧ ∃ r ∈ allRefs s, Dangling s r) := by
  obtain ⟨fi, hfi, Rf⟩ := remap_spec s.f s.imports .F hf
  obtain ⟨gi, hgi, Rg⟩ := remap_spec s.g s.imports .G hg
  obtain ⟨mi, hmi, Rm⟩ := remap_spec s.m s.imports .M hm
  have R : AllRemapped s fi gi mi := fun sp => by cases sp; exact Rf; exact Rg; exact Rm
  unfold encode
  simp only [hfi, hgi, hmi]
  cases hx : fixAll fi gi mi s with
  | none =>
    refine .inr ⟨_, _, rfl, ?_⟩
    -- some stored reference is not mapped: it cannot point to something live
    obtain ⟨r, hr, hnone⟩ := fixAll_none hx
    refine ⟨r, hr, (pointsTo_or_dangling s r).resolve_left ?_⟩
    rintro ⟨u, hp⟩
    obtain ⟨_, h1, _⟩ := mapRef_live R r u hp
    rw [hnone] at h1; cases h1
  | some x =>
    refine .inl ⟨_, _, _, _, _, _, rfl, fun r' hr' => ?_⟩
    have : ∃ r ∈ allRefs s, mapRef fi gi mi r = some r' := by
      rcases List.mem_append.mp hr' with hr' | hr'
      · exact fixAll_mem hx r' hr'
      · -- the start function
        obtain ⟨r0, hst, hm0⟩ := Option.bind_eq_some_iff.mp (Option.mem_toList.mp hr')
        exact ⟨r0, start_mem_allRefs hst, hm0⟩
    obtain ⟨r, hr, hmr⟩ := this
    obtain ⟨a, b, u, c, d⟩ := mapRef_some R r r' hmr
    -- `d` speaks of `spaces s fi gi mi`, the goal of the index spaces `encode` returned: the same terms once both are unfolded
    exact ⟨r, hr, a, b, u, c, d⟩

theorem encode_spec_space (sp : Sp) (s : St) (hf : SpaceInv s.f s.imports .F) (hg : SpaceInv s.g s.imports .G)
    (hm : SpaceInv s.m s.imports .M) :
    (∃ s' F G M res st, encode s = (s', Ret.encoded F G M res st)
        ∧ (∀ r' ∈ res, r'.sp = sp → ∃ r ∈ allRefs s, r'.site = r.site ∧ r.sp = sp
            ∧ ∃ u, PointsTo s r u ∧ (match sp with | .F => F | .G => G | .M => M)[r'.idx]? = some u))
    ∨ (∃ s' why, encode s = (s', Ret.panic why) ∧ ∃ r ∈ allRefs s, Dangling s r) := by
  refine (encode_spec s hf hg hm).imp_left ?_
  rintro ⟨s', F, G, M, res, st, he, h⟩
  refine ⟨s', F, G, M, res, st, he, fun r' hr' hsp => ?_⟩
  obtain ⟨r, hr, a, b, u, c, d⟩ := h r' (List.mem_append_left _ hr')
  refine ⟨r, hr, a, b ▸ hsp, u, c, ?_⟩
  cases sp <;> simpa only [designated, hsp] using d

end Orca.Edit
