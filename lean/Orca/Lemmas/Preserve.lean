import Orca.Lemmas.Ops
/-!
The state invariant under which `encode` is proved correct (`SpaceInv`, Lemmas/Edit.lean) holds for what the parser builds
and is preserved by every operation of the edit API (everything but `encode` itself, which leaves stored ids behind:
finding F4). So the theorems of C05–C11 hold after *every* history of edits, not only in states checked case by case.
-/
namespace Orca.Edit
open Orca.Reindex

theorem idsFresh_push (xs : List Item) (h : IdsFresh xs) (it : Item) (hid : it.id = xs.length) : IdsFresh (xs ++ [it]) := by
  intro i x hx
  rcases Nat.lt_or_ge i xs.length with hlt | hge
  · exact h i x (by rwa [List.getElem?_append_left hlt] at hx)
  · have : i = xs.length := by have := getElem?_lt hx; simp at this; omega
    subst this
    rw [List.getElem?_concat_length] at hx
    cases hx; exact hid

theorem idsFresh_set (xs : List Item) (h : IdsFresh xs) (i : Nat) (new : Item) (hid : new.id = i) : IdsFresh (xs.set i new) := by
  intro j y hy
  rw [List.getElem?_set] at hy
  split at hy
  · split at hy
    · cases hy; subst_vars; rfl
    · cases hy
  · exact h j y hy

theorem idsFresh_setItem (xs : List Item) (h : IdsFresh xs) (i : Nat) (f : Item → Item) (hf : ∀ x, (f x).id = x.id) :
    IdsFresh (setItem xs i f) := by
  unfold setItem
  split
  · exact idsFresh_set xs h i _ ((hf _).trans (h i _ ‹_›))
  · exact h

theorem mem_liveEntries (I : List ImpEntry) (sp : Sp) (p : Nat × Nat) :
    p ∈ liveEntries I sp ↔ ∃ e, I[p.1]? = some e ∧ p.2 = e.uid ∧ e.sp = some sp ∧ e.del = false := by
  obtain ⟨i, u⟩ := p
  simp only [liveEntries, List.mem_map, List.mem_filter, List.mem_zipIdx_iff_getElem?, Prod.exists, Prod.mk.injEq,
    Bool.and_eq_true, beq_iff_eq, Bool.not_eq_true']
  constructor
  · rintro ⟨e, _, ⟨he, hs, hd⟩, rfl, rfl⟩; exact ⟨e, he, rfl, hs, hd⟩
  · rintro ⟨e, he, rfl, hs, hd⟩; exact ⟨e, i, ⟨he, hs, hd⟩, rfl, rfl⟩

theorem liveEntries_sorted (I : List ImpEntry) (sp : Sp) : (liveEntries I sp).Pairwise (fun a b => a.1 < b.1) := by
  have h := List.pairwise_lt_range' (s := 0) (n := I.length)
  rw [← List.zipIdx_map_snd, List.pairwise_map] at h
  exact List.pairwise_map.mpr (h.filter _)

theorem liveEntries_append (I : List ImpEntry) (e : ImpEntry) (sp : Sp) :
    liveEntries (I ++ [e]) sp = liveEntries I sp ++ (if e.sp == some sp && !e.del then [(I.length, e.uid)] else []) := by
  simp only [liveEntries, List.zipIdx_append, List.filter_append, List.map_append, List.zipIdx_cons, List.zipIdx_nil, List.filter_cons]
  split <;> simp

theorem liveEntries_set_del (I : List ImpEntry) (sp : Sp) (i : Nat) (e : ImpEntry) (h : I[i]? = some e) :
    (liveEntries I sp).Perm
      ((if e.sp == some sp && !e.del then [(i, e.uid)] else []) ++ liveEntries (I.set i { e with del := true }) sp) := by
  obtain ⟨A, B, rfl, rfl, hset⟩ := set_split h
  simp only [liveEntries, hset, List.zipIdx_append, List.zipIdx_cons, List.filter_append, List.filter_cons, List.map_append]
  split <;> simp

theorem eq_of_perm_of_sorted {α : Type} (f : α → Nat) {l₁ l₂ : List α} (hp : l₁.Perm l₂)
    (h1 : l₁.Pairwise (fun a b => f a ≤ f b)) (h2 : l₂.Pairwise (fun a b => f a < f b)) : l₁ = l₂ := by
  refine List.Perm.eq_of_pairwise (le := fun a b => f a ≤ f b) ?_ h1 (h2.imp (fun h => Nat.le_of_lt h)) hp
  -- both are members of the strictly sorted list, where `f` is injective
  intro a b ha hb hab hba
  exact List.Pairwise.forall_of_forall_of_flip (R := fun a b => f a = f b → a = b) (fun _ _ _ => rfl)
    (h2.imp (fun h e => absurd e (Nat.ne_of_lt h))) (h2.imp (fun h e => absurd e.symm (Nat.ne_of_lt h)))
    (hp.subset ha) hb (Nat.le_antisymm hab hba)

/-- `agree` of `SpaceInv` says no more than: the live imported entries are, as a multiset, the live import entries -/
theorem agree_iff_perm (items : List Item) (I : List ImpEntry) (sp : Sp) :
    (sortImports (items.filter keepImp)).map key = liveEntries I sp
      ↔ ((items.filter keepImp).map key).Perm (liveEntries I sp) :=
  ⟨fun h => h ▸ ((sortImports_perm _).map key).symm,
   fun h => eq_of_perm_of_sorted (·.1) (((sortImports_perm _).map key).trans h)
     (List.pairwise_map.mpr (sortImports_sorted _)) (liveEntries_sorted I sp)⟩

/-- `SpaceInv` plus what makes it inductive: a deleted imported entry points at a deleted import entry -/
structure SInv (x : Space) (I : List ImpEntry) (sp : Sp) : Prop where
  fresh : IdsFresh x.items
  orig_le : x.numImp - x.numImpAdded ≤ x.items.length
  agreeP : ((x.items.filter keepImp).map key).Perm (liveEntries I sp)
  settled : x.recalc = false → x.items = sortImports (x.items.filter keepImp) ++ x.items.filter keepLoc
  dead : ∀ it ∈ x.items, it.imp = true → it.del = true → ∃ e, I[it.impId]? = some e ∧ e.del = true

theorem SInv.spaceInv {x : Space} {I : List ImpEntry} {sp : Sp} (h : SInv x I sp) : SpaceInv x I sp :=
  ⟨h.fresh, h.orig_le, (agree_iff_perm _ _ _).mpr h.agreeP, h.settled⟩

theorem SInv.of_spaceInv {x : Space} {I : List ImpEntry} {sp : Sp} (h : SpaceInv x I sp)
    (hd : ∀ it ∈ x.items, it.del = false) : SInv x I sp :=
  ⟨h.fresh, h.orig_le, (agree_iff_perm _ _ _).mp h.agree, h.settled,
   fun it hit _ hdel => by rw [hd it hit] at hdel; cases hdel⟩

structure StInv (s : St) : Prop where
  f : SInv s.f s.imports .F
  g : SInv s.g s.imports .G
  m : SInv s.m s.imports .M

def AllInv (s : St) : Prop := ∀ sp, SInv (s.space sp) s.imports sp

theorem stInv_iff (s : St) : StInv s ↔ AllInv s :=
  ⟨fun h sp => by cases sp; exact h.f; exact h.g; exact h.m, fun h => ⟨h .F, h .G, h .M⟩⟩

theorem dead_append {I : List ImpEntry} {k : Nat} (h : ∃ e, I[k]? = some e ∧ e.del = true) (t : List ImpEntry) :
    ∃ e, (I ++ t)[k]? = some e ∧ e.del = true := by
  obtain ⟨e, he, hd⟩ := h
  exact ⟨e, by rw [List.getElem?_append_left (getElem?_lt he)]; exact he, hd⟩

theorem dead_set {I : List ImpEntry} {k : Nat} (h : ∃ e, I[k]? = some e ∧ e.del = true) (i : Nat) (e0 : ImpEntry) :
    ∃ e, (I.set i { e0 with del := true })[k]? = some e ∧ e.del = true := by
  obtain ⟨e, he, hd⟩ := h
  by_cases hik : i = k
  · subst hik; exact ⟨_, List.getElem?_set_self (getElem?_lt he), rfl⟩
  · exact ⟨e, by rw [List.getElem?_set_ne hik]; exact he, hd⟩

theorem SInv.entry_of_live {x : Space} {I : List ImpEntry} {sp : Sp} (h : SInv x I sp) {it : Item} (hit : it ∈ x.items)
    (hk : keepImp it = true) : ∃ e, I[it.impId]? = some e ∧ e.sp = some sp ∧ e.del = false ∧ e.uid = it.uid := by
  have : key it ∈ liveEntries I sp :=
    h.agreeP.subset (List.mem_map_of_mem (List.mem_filter.mpr ⟨hit, hk⟩))
  obtain ⟨e, he, hu, hs, hd⟩ := (mem_liveEntries I sp _).mp this
  exact ⟨e, he, hs, hd, hu.symm⟩

theorem SInv.append_other {x : Space} {I : List ImpEntry} {sp : Sp} (h : SInv x I sp) (e : ImpEntry) (he : e.sp ≠ some sp) :
    SInv x (I ++ [e]) sp := by
  refine ⟨h.fresh, h.orig_le, ?_, h.settled, fun it hit hi hd => dead_append (h.dead it hit hi hd) _⟩
  rw [liveEntries_append]
  have : (e.sp == some sp && !e.del) = false := by simp [he]
  simpa [this] using h.agreeP

theorem SInv.push_import {x : Space} {I : List ImpEntry} {sp : Sp} (h : SInv x I sp) (uid : Nat) :
    SInv { items := x.items ++ [mkItem x.items.length true uid I.length], recalc := true, numImp := x.numImp + 1,
           numImpAdded := x.numImpAdded + 1 } (I ++ [{ sp := some sp, del := false, uid := uid }]) sp := by
  refine ⟨idsFresh_push _ h.fresh _ rfl, ?_, ?_, (by intro hr; cases hr), ?_⟩
  · have := h.orig_le; simp only [List.length_append, List.length_singleton]; omega
  · rw [liveEntries_append]
    simp only [List.filter_append, List.map_append, beq_self_eq_true, Bool.not_false, Bool.and_self, if_true]
    exact h.agreeP.append (by simp [keepImp, mkItem, key])
  · intro it hit hi hd
    rcases List.mem_append.mp hit with hit | hit
    · exact dead_append (h.dead it hit hi hd) _
    · simp only [List.mem_singleton] at hit
      subst hit
      simp [mkItem] at hd

theorem SInv.push_local {x : Space} {I : List ImpEntry} {sp : Sp} (h : SInv x I sp) (uid : Nat) (r : Bool)
    (hr : r = false → x.recalc = false) :
    SInv { x with items := x.items ++ [mkItem x.items.length false uid 0], recalc := r } I sp := by
  have hk : [mkItem x.items.length false uid 0].filter keepImp = [] := by simp [keepImp, mkItem]
  have hl : [mkItem x.items.length false uid 0].filter keepLoc = [mkItem x.items.length false uid 0] := by simp [keepLoc, mkItem]
  refine ⟨idsFresh_push _ h.fresh _ rfl, ?_, ?_, ?_, ?_⟩
  · have := h.orig_le; simp only [List.length_append, List.length_singleton]; omega
  · simp only [List.filter_append, hk, List.append_nil]; exact h.agreeP
  · intro hr'
    simp only [List.filter_append, hk, hl, List.append_nil]
    rw [← List.append_assoc, ← h.settled (hr hr')]
  · intro it hit hi hd
    rcases List.mem_append.mp hit with hit | hit
    · exact h.dead it hit hi hd
    · simp only [List.mem_singleton] at hit
      subst hit
      simp [mkItem] at hi

/-- overwriting the entry at `id` changes its own contribution to the keys only -/
theorem keys_set {l : List Item} {id : Nat} {old : Item} (h : l[id]? = some old) :
    ∃ P Q, (l.filter keepImp).map key = P ++ (if keepImp old then [key old] else []) ++ Q
      ∧ ∀ new, ((l.set id new).filter keepImp).map key = P ++ (if keepImp new then [key new] else []) ++ Q := by
  obtain ⟨A, B, rfl, _, hset⟩ := set_split h
  refine ⟨(A.filter keepImp).map key, (B.filter keepImp).map key, ?_, fun new => ?_⟩
  · rw [List.filter_append, List.filter_cons]; split <;> simp
  · rw [hset, List.filter_append, List.filter_cons]; split <;> simp

theorem SInv.set_nonimport {x : Space} {I : List ImpEntry} {sp : Sp} (h : SInv x I sp) (id : Nat) (old new : Item)
    (hold : x.items[id]? = some old) (hk : keepImp old = false) (hk' : keepImp new = false) (hid : new.id = id)
    (hdead : new.imp = true → new.del = true → ∃ e, I[new.impId]? = some e ∧ e.del = true) :
    SInv { x with items := x.items.set id new, recalc := true } I sp := by
  refine ⟨idsFresh_set _ h.fresh id new hid, by simpa using h.orig_le, ?_, (by intro hr; cases hr), ?_⟩
  · obtain ⟨P, Q, h0, hn⟩ := keys_set hold
    have := h.agreeP
    simp only [h0, hk, Bool.false_eq_true, if_false] at this
    show (((x.items.set id new).filter keepImp).map key).Perm _
    simpa only [hn, hk', Bool.false_eq_true, if_false] using this
  · intro it hit hi hd
    rcases List.mem_or_eq_of_mem_set hit with hit | rfl
    · exact h.dead it hit hi hd
    · exact hdead hi hd

theorem SInv.mark_other {x : Space} {I : List ImpEntry} {sp : Sp} (h : SInv x I sp) (i : Nat) (e : ImpEntry)
    (he : I[i]? = some e) (hno : e.sp ≠ some sp ∨ e.del = true) : SInv x (I.set i { e with del := true }) sp := by
  refine ⟨h.fresh, h.orig_le, ?_, h.settled, fun it hit hi hd => dead_set (h.dead it hit hi hd) i e⟩
  have := liveEntries_set_del I sp i e he
  rw [if_neg (by rcases hno with h | h <;> simp [h])] at this
  exact h.agreeP.trans this

theorem SInv.delete_import {x : Space} {I : List ImpEntry} {sp : Sp} (h : SInv x I sp) (id : Nat) (it : Item) (e : ImpEntry)
    (hit : x.items[id]? = some it) (hlive : keepImp it = true) (he : I[it.impId]? = some e) (new : Item) (hk' : keepImp new = false)
    (hid : new.id = id) (hdead : new.imp = true → new.del = true → new.impId = it.impId) :
    SInv { x with items := x.items.set id new, recalc := true } (I.set it.impId { e with del := true }) sp := by
  refine ⟨idsFresh_set _ h.fresh id new hid, by simpa using h.orig_le, ?_, (by intro hr; cases hr), ?_⟩
  · show (((x.items.set id new).filter keepImp).map key).Perm _
    obtain ⟨e', he', hs, hd, hu⟩ := h.entry_of_live (List.mem_of_getElem? hit) hlive
    cases he.symm.trans he'
    -- both sides lose the pair of `it`
    have hI := liveEntries_set_del I sp it.impId e he
    rw [if_pos (by simp [hs, hd]), show (it.impId, e.uid) = key it by rw [key, hu]] at hI
    obtain ⟨P, Q, h0, hn⟩ := keys_set hit
    have := h.agreeP.trans hI
    simp only [h0, hlive, if_true] at this
    simp only [hn, hk', Bool.false_eq_true, if_false, List.append_nil]
    -- `this : P ++ [key it] ++ Q ~ key it :: …`: bring `key it` to the front on the left as well, then cancel it on both sides
    exact (List.perm_middle.symm.trans (by simpa using this)).cons_inv
  · intro y hy hi hd
    rcases List.mem_or_eq_of_mem_set hy with hy | rfl
    · exact dead_set (h.dead y hy hi hd) _ e
    · exact ⟨_, by rw [hdead hi hd]; exact List.getElem?_set_self (getElem?_lt he), rfl⟩

theorem SInv.revive_import {x : Space} {I : List ImpEntry} {sp : Sp} (h : SInv x I sp) (id uid : Nat) (d : Item)
    (hd : x.items[id]? = some d) (hk : keepImp d = false) :
    SInv { items := x.items.set id (mkItem id true uid I.length), recalc := true, numImp := x.numImp + 1,
           numImpAdded := x.numImpAdded + 1 } (I ++ [{ sp := some sp, del := false, uid := uid }]) sp := by
  refine ⟨idsFresh_set _ h.fresh id _ rfl, ?_, ?_, (by intro hr; cases hr), ?_⟩
  · have := h.orig_le; simp only [List.length_set]; omega
  · show (((x.items.set id (mkItem id true uid I.length)).filter keepImp).map key).Perm _
    rw [liveEntries_append]
    simp only [beq_self_eq_true, Bool.not_false, Bool.and_self, if_true]
    obtain ⟨P, Q, h0, hn⟩ := keys_set hd
    have := h.agreeP
    simp only [h0, hk, Bool.false_eq_true, if_false, List.append_nil] at this
    rw [hn, if_pos (show keepImp (mkItem id true uid I.length) = true from rfl), List.append_assoc]
    exact List.perm_middle.trans ((this.cons _).trans (List.perm_append_singleton _ _).symm)
  · intro y hy hi hdel
    rcases List.mem_or_eq_of_mem_set hy with hy | rfl
    · exact dead_append (h.dead y hy hi hdel) _
    · simp [mkItem] at hdel

theorem SInv.set_recalc {x : Space} {I : List ImpEntry} {sp : Sp} (h : SInv x I sp) :
    SInv { x with recalc := true } I sp :=
  ⟨h.fresh, h.orig_le, h.agreeP, (by intro hr; cases hr), h.dead⟩

theorem allInv_set {s : St} {sp : Sp} {X : Space} {I' : List ImpEntry} (hown : SInv X I' sp)
    (hother : ∀ sp', sp ≠ sp' → SInv (s.space sp') I' sp') : AllInv { s.setSpace sp X with imports := I' } := by
  intro sp'
  by_cases hs : sp = sp'
  · subst hs; simpa using hown
  · simpa [space_setSpace_ne _ _ _ _ hs] using hother sp' hs

theorem allInv_deleteEntity (s : St) (sp : Sp) (id : Nat) (h : AllInv s) : AllInv (deleteEntity s sp id).1 := by
  cases hx : (s.space sp).items[id]? with
  | none =>
    -- the backward rewrite (here and below) only gives the state the form `{ s.setSpace … with imports := … }` of `allInv_set`
    rw [deleteEntity_none hx, ← setSpace_with_imports]
    exact allInv_set (h sp).set_recalc (fun sp' _ => h sp')
  | some it =>
    have hmem : it ∈ (s.space sp).items := List.mem_of_getElem? hx
    have hid : it.id = id := (h sp).fresh id it hx
    have hm := markDel_of_getElem? hx
    cases himp : it.imp with
    | false =>
      rw [deleteEntity_local hx himp, ← setSpace_with_imports, hm]
      exact allInv_set ((h sp).set_nonimport id it _ hx (by simp [keepImp, himp]) (by simp [keepImp]) hid
        (by intro hi; simp [himp] at hi)) (fun sp' _ => h sp')
    | true =>
      cases hdel : it.del with
      | false =>
        have hk : keepImp it = true := by simp [keepImp, himp, hdel]
        obtain ⟨e, he, hes, _, _⟩ := (h sp).entry_of_live hmem hk
        rw [deleteEntity_imported hx himp he, hm]
        exact allInv_set ((h sp).delete_import id it e hx hk he _ (by simp [keepImp]) hid (fun _ _ => rfl))
          (fun sp' hs => (h sp').mark_other it.impId e he (.inl (fun h' => hs (Option.some.inj (hes.symm.trans h')))))
      | true =>
        obtain ⟨e, he, hed⟩ := (h sp).dead it hmem himp hdel
        rw [deleteEntity_imported hx himp he, hm]
        exact allInv_set (((h sp).set_nonimport id it { it with del := true } hx (by simp [keepImp, hdel]) (by simp [keepImp]) hid
          (fun _ _ => ⟨e, he, hed⟩)).mark_other it.impId e he (.inr hed))
          (fun sp' _ => (h sp').mark_other it.impId e he (.inr hed))

theorem stInv_deleteEntity (s : St) (sp : Sp) (id : Nat) (h : StInv s) : StInv (deleteEntity s sp id).1 :=
  (stInv_iff _).mpr (allInv_deleteEntity s sp id ((stInv_iff _).mp h))

theorem stInv_localToImport (s : St) (id uid : Nat) (h : StInv s) : StInv (localToImport s id uid).1 := by
  by_cases hl : ∃ x, s.f.items[id]? = some x ∧ x.imp = false
  · obtain ⟨x, hx, hloc⟩ := hl
    rw [localToImport_local hx hloc]
    exact ⟨h.f.revive_import id uid x hx (by simp [keepImp, hloc]), h.g.append_other _ (by simp), h.m.append_other _ (by simp)⟩
  · rw [localToImport_of_not_local hl]; exact h

theorem stInv_replaceImport (s : St) (impId uid : Nat) (sites : List Ref) (h : StInv s) :
    StInv (replaceImport s impId uid sites).1 := by
  by_cases hf : ∃ e fid, s.imports[impId]? = some e ∧ e.sp = some .F
      ∧ s.f.items.findIdx? (fun (it : Item) => !it.del && it.imp && it.impId == impId) = some fid
  · obtain ⟨e, fid, he, hk, hfind⟩ := hf
    rw [replaceImport_found he hk hfind]
    obtain ⟨x, hx, hdel, himp, rfl⟩ := carrier_spec hfind
    exact ⟨h.f.delete_import fid x e hx (by simp [keepImp, himp, hdel]) he (mkItem fid false uid 0) (by simp [keepImp, mkItem]) rfl
        (by intro hi; simp [mkItem] at hi),
      h.g.mark_other _ e he (.inl (by simp [hk])), h.m.mark_other _ e he (.inl (by simp [hk]))⟩
  · rw [replaceImport_of_not_found hf]; exact h

theorem stInv_step (s : St) (op : Op) (hop : op ≠ .encode) (h : StInv s) : StInv (step s op).1 := by
  cases op with
  -- the seven additions are straight-line definitions: unfolded, `(step s op).1` is the literal record that `push_local` /
  -- `push_import` (own vector) and `append_other` (an import entry of another kind) are stated for
  | addLocalFunc uid sites => exact ⟨h.f.push_local uid true (fun h => nomatch h), h.g, h.m⟩
  | addImportFunc uid => exact ⟨h.f.push_import uid, h.g.append_other _ (by simp), h.m.append_other _ (by simp)⟩
  | deleteFunc id => exact stInv_deleteEntity s .F id h
  | localToImport id uid => exact stInv_localToImport s id uid h
  | replaceImport impId uid sites => exact stInv_replaceImport s impId uid sites h
  | inject _ _ | modGlobalInit _ _ | addExport _ | deleteExport _ | addData _ _ =>
    refine (stInv_iff _).mpr (fun sp => ?_)
    rw [(step_keepsVectors (by trivial) s).1, (step_keepsVectors (by trivial) s).2]
    exact (stInv_iff _).mp h sp
  | addGlobal uid sites | iterAddGlobal uid sites => exact ⟨h.f, h.g.push_local uid s.g.recalc (fun h => h), h.m⟩
  | addImportedGlobal uid => exact ⟨h.f.append_other _ (by simp), h.g.push_import uid, h.m.append_other _ (by simp)⟩
  | deleteGlobal id => exact stInv_deleteEntity s .G id h
  | addLocalMem uid => exact ⟨h.f, h.g, h.m.push_local uid true (fun h => nomatch h)⟩
  | addImportMem uid => exact ⟨h.f.append_other _ (by simp), h.g.append_other _ (by simp), h.m.push_import uid⟩
  | deleteMem id => exact stInv_deleteEntity s .M id h
  | encode => exact absurd rfl hop

def NoEncode (ops : List Op) : Prop := ∀ op ∈ ops, op ≠ .encode

theorem stInv_run (ops : List Op) : ∀ s, NoEncode ops → StInv s → StInv (run s ops).1 :=
  fun s hn h => run_preserves (fun s op h hop => stInv_step s op hop h) ops s h hn

theorem stInv_of_parsed (s : St) (hb : stInvB s = true)
    (hf : ∀ it ∈ s.f.items, it.del = false) (hg : ∀ it ∈ s.g.items, it.del = false) (hm : ∀ it ∈ s.m.items, it.del = false) :
    StInv s := by
  simp only [stInvB, Bool.and_eq_true] at hb
  exact ⟨SInv.of_spaceInv (spaceInvB_sound _ _ _ hb.1.1) hf, SInv.of_spaceInv (spaceInvB_sound _ _ _ hb.1.2) hg,
         SInv.of_spaceInv (spaceInvB_sound _ _ _ hb.2) hm⟩

theorem spaceInv_after (s0 : St) (h0 : StInv s0) (ops : List Op) (hn : NoEncode ops) :
    SpaceInv (run s0 ops).1.f (run s0 ops).1.imports .F ∧ SpaceInv (run s0 ops).1.g (run s0 ops).1.imports .G
      ∧ SpaceInv (run s0 ops).1.m (run s0 ops).1.imports .M :=
  let h := stInv_run ops s0 hn h0
  ⟨h.f.spaceInv, h.g.spaceInv, h.m.spaceInv⟩

end Orca.Edit
