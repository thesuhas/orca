import Orca.Lemmas.Sem
/-! Monitoring only adds trace events: a run with the monitor on (any probes in any slots) and a run with the monitor off
    are the same run up to traces. This is the "neutral probes change nothing else" half of C16.

    `SameCore` is that relation on outcomes; every combinator of the interpreter respects it, so the interpreter does. -/
namespace Orca.Sem

variable {fns : List Callee}

@[simp] theorem core_fire (s : St) (ps : List Nat) : (s.fire ps).core = s.core := rfl
@[simp] theorem core_withCore (s : St) (c : Core) : (s.withCore c).core = c := rfl

theorem core_eq {s s' : St} (h : s.core = s'.core) : ∃ tr, s = { s' with trace := tr } := by
  cases s; cases s'; cases h; exact ⟨_, rfl⟩

theorem mon_core_congr {s s' : St} (h : s.core = s'.core) (m m' : Bool) (ps ps' : List Nat) :
    (s.mon m ps).core = (s'.mon m' ps').core := by
  rw [St.mon_core, St.mon_core]; exact h

theorem core_withStack {s s' : St} (h : s.core = s'.core) (st : List Nat) :
    ({ s with stack := st } : St).core = ({ s' with stack := st } : St).core := by
  obtain ⟨tr, rfl⟩ := core_eq h; rfl

theorem core_exitTo {s s' : St} (h : s.core = s'.core) (base : List Nat) (a : Nat) :
    (s.exitTo base a).core = (s'.exitTo base a).core := by
  obtain ⟨tr, rfl⟩ := core_eq h; rfl

/-- the same outcome up to the trace (and the pending probe of a branch) -/
inductive SameCore : Out → Out → Prop
  | normal {s s'} : s.core = s'.core → SameCore (.normal s) (.normal s')
  | br {n pd pd' s s'} : s.core = s'.core → SameCore (.br n pd s) (.br n pd' s')
  | ret {s s'} : s.core = s'.core → SameCore (.ret s) (.ret s')
  | trap {s s'} : s.core = s'.core → SameCore (.trap s) (.trap s')
  | stuck {w w'} : SameCore (.stuck w) (.stuck w')

section
variable {o o' : Out} {m m' : Bool}

theorem SameCore.andThen {k k' : St → Out} (h : SameCore o o') (hk : ∀ s s', s.core = s'.core → SameCore (k s) (k' s')) :
    SameCore (o.andThen k) (o'.andThen k') := by
  cases h with
  | normal hc => exact hk _ _ hc
  | _ => constructor <;> assumption

theorem SameCore.onNormal {g g' : St → St} (h : SameCore o o') (hg : ∀ s s', s.core = s'.core → (g s).core = (g' s').core) :
    SameCore (o.onNormal g) (o'.onNormal g') := by
  cases h with
  | normal hc => exact .normal (hg _ _ hc)
  | _ => constructor <;> assumption

theorem SameCore.leaveBlock {ann ann' : Ann} (base : List Nat) (a : Nat) (h : SameCore o o') :
    SameCore (leaveBlock m ann base a o) (leaveBlock m' ann' base a o') := by
  rw [leaveBlock_mon, leaveBlock_mon]
  cases h with
  | normal hc => exact .normal (mon_core_congr (mon_core_congr hc ..) ..)
  | @br n _ _ _ _ hc =>
    cases n with
    | zero => exact .normal (mon_core_congr (mon_core_congr (core_exitTo hc ..) ..) ..)
    | succ n => exact .br hc
  | _ => constructor <;> assumption

theorem SameCore.loopOut {ann ann' : Ann} {k k' : St → Out} (h : SameCore o o')
    (hk : ∀ s s', s.core = s'.core → SameCore (k s) (k' s')) :
    SameCore (loopOut m ann k o) (loopOut m' ann' k' o') := by
  cases h with
  | normal hc => exact .normal (mon_core_congr (mon_core_congr hc ..) ..)
  | @br n _ _ _ _ hc =>
    cases n with
    | zero => exact hk _ _ hc
    | succ n => exact .br hc
  | _ => constructor <;> assumption

theorem SameCore.callRet {a a' : List Nat} {s s' : St} (c : Callee) (hs : s.core = s'.core) (h : SameCore o o') :
    SameCore (callRet m a s c o) (callRet m' a' s' c o') := by
  rw [callRet_mon m, callRet_mon m']
  refine SameCore.onNormal ?_ fun _ _ h => mon_core_congr h ..
  obtain ⟨tr, rfl⟩ := core_eq hs
  cases h with
  | @br n _ _ _ _ hc =>
    cases n with
    | zero => obtain ⟨tr', rfl⟩ := core_eq hc; exact .normal rfl
    | succ n => exact .stuck
  | trap hc => obtain ⟨tr', rfl⟩ := core_eq hc; exact .trap rfl
  | stuck => exact .stuck
  | _ hc => obtain ⟨tr', rfl⟩ := core_eq hc; exact .normal rfl

end

theorem run_erase : ∀ (f : Nat) (m m' : Bool) (fx fx' : List Nat),
    (∀ p s s', s.core = s'.core → SameCore (run fns m fx f p s) (run fns m' fx' f p s'))
    ∧ (∀ i s s', s.core = s'.core → SameCore (runOne fns m fx f i s) (runOne fns m' fx' f i s')) := by
  intro f
  induction f with
  | zero => exact fun m m' fx fx' => ⟨fun _ _ _ _ => by rw [run_zero, run_zero]; exact .stuck,
      fun _ _ _ _ => by rw [runOne_zero, runOne_zero]; exact .stuck⟩
  | succ f ih =>
    intro m m' fx fx'
    have ihL := fun m m' fx fx' => (ih m m' fx fx').1
    have ihO := fun m m' fx fx' => (ih m m' fx fx').2
    have stack_eq : ∀ {s s' : St}, s.core = s'.core → s.stack = s'.stack := fun h => congrArg Core.stack h
    constructor
    · intro p s s' hc
      cases p with
      | nil => exact .normal hc
      | cons i is =>
        rw [run_cons, run_cons]
        exact (ihO _ _ _ _ i s s' hc).andThen fun _ _ h => ihL _ _ _ _ is _ _ h
    · intro i s s' hc
      cases i with
      | op b a k =>
        rw [runOne_op b a k, runOne_op b a k]
        refine SameCore.onNormal ?_ fun _ _ h => mon_core_congr h ..
        have hc1 := mon_core_congr hc m m' b b
        generalize s.mon m b = s1, s'.mon m' b = s2 at hc1
        rw [runOne_bare, runOne_bare]
        simp only [stepTok, ← hc1]
        cases stepCore k s1.core with
        | ok c => exact .normal rfl
        | trap => exact .trap hc1
        | stuck => exact .stuck
        | call g =>
          obtain ⟨tr, rfl⟩ := core_eq hc1
          exact callOut_cases (motive := SameCore) (s := { s2 with trace := tr }) (s' := s2) rfl (fun _ => .stuck)
            (fun c => .normal rfl) fun c => SameCore.callRet c rfl (ihL _ _ _ _ _ _ _ rfl)
      | probe id => exact .normal hc
      | block b ann a tk body =>
        rw [runOne_block, runOne_block, stack_eq hc]
        exact (ihL _ _ _ _ body _ _ (mon_core_congr (mon_core_congr hc ..) ..)).leaveBlock _ _
      | loop b ann tk body =>
        rw [runOne_loop, runOne_loop, stack_eq hc]
        exact (ihL _ _ _ _ body _ _ (mon_core_congr (mon_core_congr hc ..) ..)).loopOut
          fun _ _ h => ihO _ _ _ _ _ _ _ (core_withStack h _)
      | ite b annT annE a tk t e he =>
        cases hs : s'.stack with
        | nil =>
          rw [runOne_ite_nil ((stack_eq hc).trans hs), runOne_ite_nil hs]
          exact .stuck
        | cons v st =>
          rw [runOne_ite ((stack_eq hc).trans hs), runOne_ite hs]
          exact (ihL _ _ _ _ _ _ _ (mon_core_congr (core_withStack (mon_core_congr hc ..) st) ..)).leaveBlock _ _
      | br b a sa n => exact .br (mon_core_congr hc ..)
      | brIf b a sa n =>
        rw [runOne_brIf, runOne_brIf, stack_eq hc]
        have h0 := core_withStack (mon_core_congr hc m m' b b)
        cases s'.stack with
        | nil => exact .stuck
        | cons v st =>
          dsimp only
          by_cases hv : v ≠ 0
          · rw [if_pos hv, if_pos hv]; exact .br (h0 st)
          · rw [if_neg hv, if_neg hv]; exact .normal (mon_core_congr (mon_core_congr (h0 st) ..) ..)
      | brTable b a sa ts d =>
        rw [runOne_brTable, runOne_brTable, stack_eq hc]
        cases s'.stack with
        | nil => exact .stuck
        | cons v st => exact .br (core_withStack (mon_core_congr hc ..) st)
      | ret b a => rw [runOne_ret, runOne_ret]; exact .ret (mon_core_congr (mon_core_congr hc ..) ..)
      | unreachable b a => rw [runOne_unreachable, runOne_unreachable]; exact .trap (mon_core_congr (mon_core_congr hc ..) ..)

/-- what a caller can observe of an activation besides the trace: results, globals, memory — or a trap, with the globals
    and memory at the trap -/
inductive FOutA where
  | returned (results globals : List Nat) (mem : List (Nat × Nat))
  | trapped (globals : List Nat) (mem : List (Nat × Nat))
  | stuck
deriving Repr, DecidableEq

def FOut.abs : FOut → FOutA
  | .returned r s => .returned r s.globals s.mem
  | .trapped s => .trapped s.globals s.mem
  | .stuck _ => .stuck

theorem SameCore.finish {o o' : Out} {m m' : Bool} (F : Func) (base base' : List Nat) (h : SameCore o o') :
    (finish m F base o).abs = (finish m' F base' o').abs := by
  cases h with
  | @br n _ _ _ _ hc =>
    cases n with
    | zero => obtain ⟨tr, rfl⟩ := core_eq hc; cases m <;> cases m' <;> rfl
    | succ n => rfl
  | stuck => rfl
  | _ hc => obtain ⟨tr, rfl⟩ := core_eq hc; cases m <;> cases m' <;> rfl

theorem runFunc_erase (F : Func) (s : St) (f : Nat) :
    (runFunc fns true f F s).abs = (runFunc fns false f F s).abs :=
  ((run_erase (fns := fns) f true false F.exit F.exit).1 F.body (s.fire F.entry) s rfl).finish F s.stack s.stack

end Orca.Sem
