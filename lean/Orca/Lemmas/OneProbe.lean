import Orca.Lemmas.Resolver
/-!
Where the resolver puts the instrumentation of **one** instruction of an otherwise clean body. The hypotheses only follow the nesting
depth (`depthAfter`), which is weaker than well-nestedness, so these are not instances of the stack-machine theorems. The clean code in
front and behind is dealt with once (`lower_between_clean`); over the construct, from any state with nothing pending (`Quiet`): the opener
parks its code at its block id (`opened`), code above that level only moves the stack (`Below`), the closer takes what is parked.
-/
namespace Orca.Lower

/-- an instruction without instrumentation (its `mode` is irrelevant) -/
structure Clean (i : Instr) : Prop where
  before : i.before = []
  after : i.after = []
  alt : i.alt = none
  semAfter : i.semAfter = []
  blockEntry : i.blockEntry = []
  blockExit : i.blockExit = []
  blockAlt : i.blockAlt = none

theorem Clean.cleared {i : Instr} (h : Clean i) : Cleared i := ⟨h.semAfter, h.blockEntry, h.blockExit, h.blockAlt⟩

structure SelOnly (i : Instr) (repl : List Tok) : Prop where
  before : i.before = []
  after : i.after = []
  alt : i.alt = none
  semAfter : i.semAfter = []
  blockEntry : i.blockEntry = []
  blockExit : i.blockExit = []
  blockAlt : i.blockAlt = some repl

/-- the instruction carries one list of one special mode and nothing else -/
structure OnlyEntry (i : Instr) (pr : List Tok) : Prop where
  before : i.before = []
  after : i.after = []
  alt : i.alt = none
  semAfter : i.semAfter = []
  blockEntry : i.blockEntry = pr
  blockExit : i.blockExit = []
  blockAlt : i.blockAlt = none
  ne : pr ≠ []

structure OnlyExit (i : Instr) (pr : List Tok) : Prop where
  before : i.before = []
  after : i.after = []
  alt : i.alt = none
  semAfter : i.semAfter = []
  blockEntry : i.blockEntry = []
  blockExit : i.blockExit = pr
  blockAlt : i.blockAlt = none
  ne : pr ≠ []

structure OnlySemAfter (i : Instr) (pr : List Tok) : Prop where
  before : i.before = []
  after : i.after = []
  alt : i.alt = none
  semAfter : i.semAfter = pr
  blockEntry : i.blockEntry = []
  blockExit : i.blockExit = []
  blockAlt : i.blockAlt = none
  ne : pr ≠ []

/-- depth bookkeeping inside an arm: an `else` at the arm's own level does not belong to it -/
def depthStepE (k : Kind) (n : Nat) : Option Nat :=
  match k with
  | .else_ => if n = 0 then none else some n
  | k => depthStep k n

def depthAfterE : List Instr → Nat → Option Nat
  | [], n => some n
  | x :: xs, n => (depthStepE x.kind n).bind (depthAfterE xs)

def KeysBelow (lo : Nat) (l : List (Nat × ToInject)) : Prop := ∀ p ∈ l, p.1 < lo

theorem KeysBelow.absent {lo : Nat} {l : List (Nat × ToInject)} (h : KeysBelow lo l) {k : Nat} (hk : lo ≤ k) :
    l.any (·.1 == k) = false := by
  rw [List.any_eq_false]
  intro p hp
  have := h p hp
  simp; omega

theorem KeysBelow.nil (lo : Nat) : KeysBelow lo [] := fun _ h => by cases h

/-- every key in the three tables is below `lo` (a conjunction, not a structure: it then holds of `{ s with stack := _, body := _ }`
    by definitional unfolding) -/
def Below (lo : Nat) (s : RState) : Prop :=
  KeysBelow lo s.onElseOrEnd ∧ KeysBelow lo s.onEndBefore ∧ KeysBelow lo s.onEndAfter

theorem Quiet.below {s : RState} (h : Quiet s) (lo : Nat) : Below lo s :=
  ⟨h.t1 ▸ KeysBelow.nil lo, h.t2 ▸ KeysBelow.nil lo, h.t3 ▸ KeysBelow.nil lo⟩

/-- Above block level `lo`, when every key in the tables is below `lo`, `pass` only moves the block stack; `m` is the relative depth above
    `lo` (an `else` / `end` of level `lo` itself is refused by `depthStepE`) -/
theorem pass_above (s : RState) (idx : Nat) (k : Kind) (lo m m' : Nat) (hB : Below lo s) (hst : s.stack = List.range (lo + m))
    (hn : depthStepE k m = some m') : pass s idx k = { s with stack := List.range (lo + m') } := by
  cases k with
  | block | loop | if_ =>
    all_goals
      cases hn
      rw [pass_open s idx (by simp), hst, List.length_range, ← List.range_succ]; rfl
  | else_ =>
    cases m with
    | zero => cases hn
    | succ j =>
      cases hn
      rw [pass_else s idx (n := lo + j) hst, flushE_absent _ _ _ (hB.1.absent (Nat.le_add_right lo j)), ← hst]
  | end_ =>
    cases m with
    | zero => cases hn
    | succ j =>
      cases hn
      have hj := Nat.le_add_right lo j
      rw [pass_end s idx (n := lo + j) hst]
      exact endE_absent _ idx _ (hB.1.absent hj) (hB.2.1.absent hj) (hB.2.2.absent hj)
  | br _ | brIf _ | brTable _ _ | exitLike | other =>
    all_goals
      cases hn
      rw [pass_other s idx (by rfl) (by simp), ← hst]

/-- with no block-exit code of an `if` pending, an `else` of level `lo` itself is passed as well -/
theorem pass_above' (s : RState) (idx : Nat) (k : Kind) (lo m m' : Nat) (hB : Below lo s) (hE : s.onElseOrEnd = [])
    (hst : s.stack = List.range (lo + m)) (hn : depthStep k m = some m') : pass s idx k = { s with stack := List.range (lo + m') } := by
  by_cases hk : k = .else_
  · subst hk
    cases hn
    rw [pass, flushE_absent _ _ _ (by rw [hE]; rfl), ← hst]
  · exact pass_above s idx k lo m m' hB hst (by cases k <;> first | exact hn | exact absurd rfl hk)

theorem opener_blockStyle {k : Kind} (h : k = .block ∨ k = .loop ∨ k = .if_) : k ≠ .else_ ∧ k.isBlockStyle = true := by
  rcases h with rfl | rfl | rfl <;> exact ⟨nofun, rfl⟩

theorem pass_enter (s : RState) (idx : Nat) {k : Kind} (n : Nat) (hq : Quiet s) (hk : k.isBlockStyle = true)
    (hst : s.stack = List.range (if k = .else_ then n + 1 else n)) : pass s idx k = { s with stack := List.range (n + 1) } := by
  have hn : depthStep k (if k = .else_ then n + 1 else n) = some (n + 1) := by cases k <;> first | rfl | cases hk
  rw [pass_above' s idx k 0 _ (n + 1) (hq.below 0) hq.t1 (by rw [hst, Nat.zero_add]) hn, Nat.zero_add]

theorem rloop_passE (last lo : Nat) (xs : List Instr) (s : RState) (idx m m' : Nat) (hc : ∀ x ∈ xs, Cleared x) (he : s.entry = [])
    (hx : s.exit = []) (hd : s.deleteBlock = none) (hB : Below lo s) (hst : s.stack = List.range (lo + m))
    (hn : depthAfterE xs m = some m') : rloop last s idx xs = { s with stack := List.range (lo + m') } := by
  induction xs generalizing s idx m with
  | nil => cases hn; rw [← hst]; rfl
  | cons x xs ih =>
    simp only [depthAfterE, Option.bind_eq_some_iff] at hn
    obtain ⟨m1, h1, hn⟩ := hn
    rw [rloop, rstep_cleared last s idx x (hc x (List.mem_cons_self ..)) he hx hd, pass_above s idx x.kind lo m m1 hB hst h1,
      ih { s with stack := List.range (lo + m1) } (idx + 1) m1 (fun y hy => hc y (List.mem_cons_of_mem _ hy)) he hx hd hB rfl hn]

theorem rloop_pass (last lo : Nat) (xs : List Instr) (s : RState) (idx m m' : Nat) (hc : ∀ x ∈ xs, Cleared x) (he : s.entry = [])
    (hx : s.exit = []) (hd : s.deleteBlock = none) (hB : Below lo s) (hE : s.onElseOrEnd = []) (hst : s.stack = List.range (lo + m))
    (hn : depthAfter xs m = some m') : rloop last s idx xs = { s with stack := List.range (lo + m') } := by
  induction xs generalizing s idx m with
  | nil => cases hn; rw [← hst]; rfl
  | cons x xs ih =>
    simp only [depthAfter, Option.bind_eq_some_iff] at hn
    obtain ⟨m1, h1, hn⟩ := hn
    rw [rloop, rstep_cleared last s idx x (hc x (List.mem_cons_self ..)) he hx hd, pass_above' s idx x.kind lo m m1 hB hE hst h1,
      ih { s with stack := List.range (lo + m1) } (idx + 1) m1 (fun y hy => hc y (List.mem_cons_of_mem _ hy)) he hx hd hB hE rfl hn]

/-- the table after parking `x` (if there is any) at key `n` in the empty table -/
def park1 (n : Nat) (x : List Tok) : List (Nat × ToInject) := if x ≠ [] then addFlat [] n x else []

theorem park1_cases (n : Nat) (x : List Tok) :
    (x = [] ∧ park1 n x = []) ∨ park1 n x = [(n, { flagged := [], notFlagged := [x] })] := by
  unfold park1
  by_cases h : x = []
  · exact .inl ⟨h, by rw [if_neg (by simpa using h)]⟩
  · exact .inr (by rw [if_pos h]; rfl)

theorem park1_below (n : Nat) (x : List Tok) : KeysBelow (n + 1) (park1 n x) := by
  rcases park1_cases n x with ⟨-, h⟩ | h <;> rw [h]
  · exact KeysBelow.nil _
  · intro p hp; rw [List.mem_singleton.mp hp]; exact Nat.lt_succ_self n

theorem park1_remove (n : Nat) (x : List Tok) : removeInj (park1 n x) n = [] := by
  rcases park1_cases n x with ⟨-, h⟩ | h <;> rw [h] <;> simp [removeInj]

theorem park1_resolve (n : Nat) (x : List Tok) : resolveBodies (getInj (park1 n x) n) = x := by
  rcases park1_cases n x with ⟨hx, h⟩ | h <;> rw [h]
  · rw [hx]; rfl
  · simp [getInj, resolveBodies_plain]

/-- the state inside a construct with block id `n` that a quiet state `s` has entered: what waits for the construct's `else` (`x1`) or
    `end` (`x2` in front of it, `x3` behind it) is parked at key `n` -/
def opened (s : RState) (n : Nat) (body : List Instr) (x1 x2 x3 : List Tok) : RState :=
  { s with stack := List.range (n + 1), body := body, onElseOrEnd := park1 n x1, onEndBefore := park1 n x2, onEndAfter := park1 n x3 }

theorem opened_below (s : RState) (n : Nat) (body : List Instr) (x1 x2 x3 : List Tok) : Below (n + 1) (opened s n body x1 x2 x3) :=
  ⟨park1_below n x1, park1_below n x2, park1_below n x3⟩

theorem opened_nil {s : RState} (hq : Quiet s) (n : Nat) (body : List Instr) :
    opened s n body [] [] [] = { s with stack := List.range (n + 1), body := body } := by
  simp [opened, park1, hq.t1, hq.t2, hq.t3]

theorem rstep_probe (last : Nat) (s : RState) (A B : List Instr) (sel : Instr) (n : Nat) (hq : Quiet s) (hb : s.body = A ++ sel :: B)
    (hst : s.stack = List.range (if sel.kind = .else_ then n + 1 else n)) (hba : sel.blockAlt = none)
    (hk : sel.kind.isBlockStyle = true) :
    ∃ sel', rstep last s A.length sel
        = opened s n (A ++ sel' :: B) (if sel.kind = .if_ then sel.blockExit else []) (if sel.kind = .if_ then [] else sel.blockExit)
            sel.semAfter
      ∧ Chg sel sel' [] sel.blockEntry := by
  obtain ⟨sel', e, g⟩ := planSpecial_blockStyle { s with stack := List.range (n + 1) } A B sel sel hk hb
  refine ⟨sel', ?_, g⟩
  rw [rstep_core last s _ sel hq.entry hq.exit, rcore_plain s _ sel hba hq.del, pass_enter s _ n hq hk hst, e]
  simp only [top_range_succ, hq.t1, hq.t2, hq.t3, opened, park1]
  by_cases hi : sel.kind = .if_ <;> by_cases hx : sel.blockExit = [] <;> simp [hi, hx]

theorem rstep_else_takes (last : Nat) (s : RState) (A B : List Instr) (elseI : Instr) (n : Nat) (x1 x2 x3 : List Tok) (hq : Quiet s)
    (hc : Cleared elseI) (hk : elseI.kind = .else_) :
    ∃ else', rstep last (opened s n (A ++ elseI :: B) x1 x2 x3) A.length elseI = opened s n (A ++ else' :: B) [] x2 x3
      ∧ Chg elseI else' x1 [] := by
  obtain ⟨else', e, g⟩ := flushE_eq (opened s n (A ++ elseI :: B) x1 x2 x3) A B elseI n rfl
  simp only [opened, park1_remove, park1_resolve] at e g
  refine ⟨else', ?_, g⟩
  rw [rstep_cleared last (opened s n _ x1 x2 x3) _ elseI hc hq.entry hq.exit hq.del, hk, pass_else _ _ (n := n) rfl]
  exact e

theorem rstep_end_takes (last : Nat) (s : RState) (A B : List Instr) (endI : Instr) (n : Nat) (x1 x2 x3 : List Tok) (hq : Quiet s)
    (hc : Cleared endI) (hk : endI.kind = .end_) :
    ∃ end', rstep last (opened s n (A ++ endI :: B) x1 x2 x3) A.length endI = { s with stack := List.range n, body := A ++ end' :: B }
      ∧ Chg endI end' (x1 ++ x2) x3 := by
  obtain ⟨end', e, g⟩ := endE_eq { opened s n (A ++ endI :: B) x1 x2 x3 with stack := List.range n } A B endI n rfl
  refine ⟨end', ?_, by simpa [opened, park1_resolve] using g⟩
  rw [rstep_cleared last (opened s n _ x1 x2 x3) _ endI hc hq.entry hq.exit hq.del, hk, pass_end _ _ (n := n) rfl, e]
  simp [opened, park1_remove, hq.t1, hq.t2, hq.t3]

def toks (xs : List Instr) : List Tok := xs.map (·.tok)

theorem emitFrom_clean (last : Nat) : ∀ (xs : List Instr) (k : Nat), (∀ x ∈ xs, Clean x) → emitFrom last k xs = toks xs := by
  intro xs
  induction xs with
  | nil => intro k _; rfl
  | cons x xs ih =>
    intro k hc
    have hx := hc x (List.mem_cons_self ..)
    simp only [emitFrom, toks, List.map_cons, hx.before, hx.alt, hx.after, List.nil_append]
    rw [ih (k + 1) (fun y hy => hc y (List.mem_cons_of_mem _ hy))]
    split <;> simp [toks]

theorem rloop_append (last : Nat) : ∀ (xs ys : List Instr) (s : RState) (k : Nat),
    rloop last s k (xs ++ ys) = rloop last (rloop last s k xs) (k + xs.length) ys := by
  intro xs
  induction xs with
  | nil => intro ys s k; simp [rloop]
  | cons x xs ih =>
    intro ys s k
    simp only [List.cons_append, rloop, ih ys _ (k + 1), List.length_cons]
    rw [show k + 1 + xs.length = k + (xs.length + 1) by omega]

theorem rloop_bracket (last : Nat) (s : RState) (k : Nat) (sel closer : Instr) (region : List Instr) :
    rloop last s k (sel :: region ++ [closer])
      = rstep last (rloop last (rstep last s k sel) (k + 1) region) (k + 1 + region.length) closer := by
  rw [List.cons_append, rloop, rloop_append, rloop, rloop]

theorem emitMid_clean {x : Instr} (h : Clean x) : emitMid x = [x.tok] := by simp [emitMid, h.before, h.alt, h.after]

theorem emitMid_mark {x : Instr} (h : Clean x) : emitMid (mark x) = [] := by simp [emitMid, mark, h.before, h.after]

theorem flatMap_emitMid_clean {xs : List Instr} (h : ∀ x ∈ xs, Clean x) : xs.flatMap emitMid = toks xs := by
  induction xs with
  | nil => rfl
  | cons x xs ih =>
    rw [List.flatMap_cons, emitMid_clean (h x (List.mem_cons_self ..)), ih (fun y hy => h y (List.mem_cons_of_mem _ hy))]; rfl

theorem flatMap_emitMid_marked {xs : List Instr} (h : ∀ x ∈ xs, Clean x) : (xs.map mark).flatMap emitMid = [] := by
  rw [List.flatMap_eq_nil_iff]
  intro y hy
  obtain ⟨x, hx, rfl⟩ := List.mem_map.mp hy
  exact emitMid_mark (h x hx)

theorem Chg.emit {c c' : Instr} {B A : List Tok} (h : Chg c c' B A) :
    emitMid c' = c.before ++ B ++ c.alt.getD [c.tok] ++ (c.after ++ A) := by
  rw [emitMid, h.1, h.2.1, h.2.2.1, h.2.2.2]

/-- Clean code `pre` in front of and clean code `post` (not empty) behind the part `mid` that holds the instrumentation: the loop passes
    `pre` and `post` moving only the block stack, so it is enough to say what it does on `mid`, started with nothing pending at the depth
    `d` behind `pre`. (`B` in `hmid`: `get_fn_modifier` sets the mode of the last instruction, so the loop runs over a `post'` that is
    `post` up to modes.) -/
theorem lower_between_clean (f : Func) (pre mid post : List Instr) (hbody : f.body = pre ++ mid ++ post) (hpne : post ≠ [])
    (hsp : f.hasSpecial = true) (hentry : f.entry = []) (hexit : f.exit = []) (hpre : ∀ x ∈ pre, Clean x) (hpost : ∀ x ∈ post, Clean x)
    (d n n2 : Nat) (hd1 : depthAfter pre 1 = some d) (hd3 : depthAfter post n = some n2) (out : List Tok)
    (hmid : ∀ (s : RState) (B : List Instr), Quiet s → s.retainEnd = true → s.body = pre ++ mid ++ B → s.stack = List.range d →
      ∃ mid', rloop (f.body.length - 1) s pre.length mid = { s with stack := List.range n, body := pre ++ mid' ++ B }
        ∧ mid'.length = mid.length ∧ toks pre ++ mid'.flatMap emitMid = out) :
    lower f = (out ++ toks post, f.added) := by
  -- the last instruction lies in `post`
  have hlast : f.body.length - 1 = (pre ++ mid).length + (post.length - 1) := by
    have := List.length_pos_iff.mpr hpne
    rw [hbody, List.length_append (as := pre ++ mid)]; omega
  generalize hp' : modifyAt post (post.length - 1) (fun i => { i with mode := some .before }) = post'
  have hbody0 : modifyAt f.body (f.body.length - 1) (fun i => { i with mode := some .before }) = pre ++ mid ++ post' := by
    rw [hlast, hbody, modifyAt_append_right _ _ _ _ (Nat.le_add_right ..), Nat.add_sub_cancel_left, hp']
  have hc : ∀ x ∈ post', Clean x := hp' ▸
    forall_mem_modifyAt hpost _ fun _ p => ⟨p.before, p.after, p.alt, p.semAfter, p.blockEntry, p.blockExit, p.blockAlt⟩
  have hd3' : depthAfter post' n = some n2 := by
    rw [← hp', depthAfter_modifyAt (fun i => { i with mode := some .before }) (fun _ => rfl)]; exact hd3
  have hpos : 0 < post'.length := by rw [← hp', modifyAt_length]; exact List.length_pos_iff.mpr hpne
  have htoks : toks post' = toks post := by
    rw [← hp', toks, map_modifyAt (·.tok) post _ (fun i => { i with mode := some .before }) fun _ => rfl]; rfl
  -- the state behind `pre` is the resolver's initial one but for the stack: `Quiet`, and `retainEnd = true` (both by the defaults of
  -- `RState`; the latter only for `blockAlt_any`, whose run ends in `retainEnd := true` where `hmid` wants `s.retainEnd`)
  obtain ⟨mid', e2, hlen, hout⟩ := hmid { body := pre ++ mid ++ post', stack := List.range d, nlocals := f.nlocals } post'
    ⟨rfl, rfl, rfl, rfl, rfl, rfl⟩ rfl rfl rfl
  have hrun : rloop (f.body.length - 1) { body := pre ++ mid ++ post', nlocals := f.nlocals } 0 (pre ++ mid ++ post')
      = { body := pre ++ mid' ++ post', stack := List.range n2, nlocals := f.nlocals } := by
    -- all tables are empty, so `lo = 0`; `hst` for `pre`: the initial stack `[0]` (the function body's own frame) is `range (0 + 1)`,
    -- which is why depths count from 1
    rw [rloop_append, rloop_append,
      rloop_pass _ 0 pre { body := _, nlocals := _ } 0 1 d (hc := fun x hx => (hpre x hx).cleared) (he := rfl) (hx := rfl) (hd := rfl)
        (hB := ⟨KeysBelow.nil _, KeysBelow.nil _, KeysBelow.nil _⟩) (hE := rfl) (hst := rfl) (hn := hd1),
      Nat.zero_add, Nat.zero_add, e2,
      rloop_pass _ 0 post' { body := _, stack := _, nlocals := _ } _ n n2 (hc := fun x hx => (hc x hx).cleared) (he := rfl) (hx := rfl)
        (hd := rfl) (hB := ⟨KeysBelow.nil _, KeysBelow.nil _, KeysBelow.nil _⟩) (hE := rfl) (hst := by rw [Nat.zero_add]) (hn := hd3'),
      Nat.zero_add]
  rw [lower, resolveSpecial_of_special f hsp]
  simp only [entryToks, hexit, hentry, List.isEmpty_nil, if_true, hbody0, hrun, emit, Nat.add_zero]
  rw [emitFrom_append, emitFrom_mid _ (pre ++ mid') 0 (by rw [List.length_append (as := pre ++ mid')]; omega),
    emitFrom_clean _ _ _ hc, List.flatMap_append, flatMap_emitMid_clean hpre, hout, htoks]

theorem rstep_removing_above (last : Nat) (s : RState) (idx : Nat) (ins : Instr) (d m m' : Nat) (he : s.entry = []) (hx : s.exit = [])
    (hd : s.deleteBlock = some d) (hB : Below (d + 1) s) (hE : s.onElseOrEnd = []) (hst : s.stack = List.range (d + 1 + m))
    (hn : depthStep ins.kind m = some m') :
    rstep last s idx ins = { s with stack := List.range (d + 1 + m'), body := markAt s.body idx } := by
  rw [rstep_core last s idx ins he hx]
  by_cases hk : ins.kind = .end_
  · -- an `end` inside the construct closes block `d + 1 + j`, not the block `d` being removed
    rw [hk] at hn
    cases m with
    | zero => cases hn
    | succ j =>
      cases hn
      rw [rcore_removing_end s idx ins d (d + 1 + j) hd hk (hst ▸ range_succ_getLast (d + 1 + j)),
        if_neg (by omega), hst, ← Nat.add_assoc, range_succ_dropLast]
      rfl
  · rw [rcore_removing s idx ins d hd hk, pass_above' s idx ins.kind (d + 1) m m' hB hE hst hn, markS]

theorem rloop_removing (last d : Nat) : ∀ (xs : List Instr) (s : RState) (A B : List Instr) (m m' : Nat),
    s.entry = [] → s.exit = [] → s.deleteBlock = some d → Below (d + 1) s → s.onElseOrEnd = [] → s.body = A ++ xs ++ B →
    s.stack = List.range (d + 1 + m) → depthAfter xs m = some m' →
    rloop last s A.length xs = { s with stack := List.range (d + 1 + m'), body := A ++ xs.map mark ++ B } := by
  intro xs
  induction xs with
  | nil =>
    intro s A B m m' _ _ _ _ _ hb hst hn
    cases hn
    rw [rloop, ← hst, List.map_nil, ← hb]
  | cons x xs ih =>
    intro s A B m m' he hx hd hB hE hb hst hn
    simp only [depthAfter, Option.bind_eq_some_iff] at hn
    obtain ⟨m1, h1, hn⟩ := hn
    have hb' : s.body = A ++ x :: (xs ++ B) := by simpa using hb
    rw [rloop, rstep_removing_above last s A.length x d m m1 he hx hd hB hE hst h1, hb', markAt_mid]
    have := ih { s with stack := List.range (d + 1 + m1), body := A ++ mark x :: (xs ++ B) } (A ++ [mark x]) B m1 m' he hx hd
      hB hE (by simp) rfl hn
    simp only [List.length_append, List.length_singleton] at this
    rw [this]
    simp

/-- the state while the construct with block id `n`, entered from a quiet state `s`, is being removed; `r`: its `end` stays (the construct
    is an `else` arm) -/
def removing (s : RState) (n : Nat) (r : Bool) (body : List Instr) : RState :=
  { s with stack := List.range (n + 1), retainEnd := r, deleteBlock := some n, body := body }

theorem rstep_alt_starts (last : Nat) (s : RState) (A B : List Instr) (sel : Instr) (repl : List Tok) (n : Nat) (hq : Quiet s)
    (hb : s.body = A ++ sel :: B) (hst : s.stack = List.range (if sel.kind = .else_ then n + 1 else n))
    (hsel : sel.blockAlt = some repl) (hk : sel.kind.isBlockStyle = true) :
    ∃ sel', rstep last s A.length sel = removing s n (sel.kind == .else_) (A ++ sel' :: B)
      ∧ sel'.before = sel.before ∧ sel'.after = sel.after ∧ sel'.alt = some (altOf sel repl) := by
  obtain ⟨sel', e, p1, p2, p3, -⟩ := startS_mid { s with stack := List.range (n + 1) } A B sel repl (sel.kind == .else_) hb
  refine ⟨sel', ?_, p1, p2, p3⟩
  rw [rstep_core last s _ sel hq.entry hq.exit, rcore_start s _ sel repl hsel hq.del (blockStyle_cases hk), pass_enter s _ n hq hk hst,
    e, top_range_succ]
  rfl

theorem rstep_end_removed (last : Nat) (s : RState) (A B : List Instr) (endI : Instr) (n : Nat) (r : Bool) (hq : Quiet s)
    (hk : endI.kind = .end_) (hc : r = true → Cleared endI) :
    rstep last (removing s n r (A ++ endI :: B)) A.length endI
      = { s with stack := List.range n, retainEnd := true, body := A ++ (if r then endI else mark endI) :: B } := by
  rw [rstep_core last (removing s n r _) _ endI hq.entry hq.exit,
    rcore_removing_end (removing s n r _) _ endI n n rfl hk (range_succ_getLast n), if_pos rfl]
  cases r with
  | true =>
    have hc := hc rfl
    rw [if_pos rfl, endE_absent _ _ _ (by simp [removing, hq.t1]) (by simp [removing, hq.t2]) (by simp [removing, hq.t3]),
      planSpecial_nospecial _ _ endI hc.1 hc.2.1 hc.2.2.1]
    simp [removing, range_succ_dropLast, hq.del]
  | false => simp [removing, markAt_mid, range_succ_dropLast, hq.del]

/-- What `region` carries is discarded with it; only a retained `end` has to be free of special lists. `n` is the block id of the
    construct. -/
theorem rloop_blockAlt (last : Nat) (A region B : List Instr) (sel endI : Instr) (repl : List Tok) (s : RState) (n : Nat)
    (hq : Quiet s) (hb : s.body = A ++ (sel :: region ++ [endI]) ++ B)
    (hst : s.stack = List.range (if sel.kind = .else_ then n + 1 else n)) (hsel : sel.blockAlt = some repl)
    (hk : sel.kind.isBlockStyle = true) (hendk : endI.kind = .end_)
    (hend : sel.kind = .else_ → Cleared endI) (hd2 : depthAfter region 0 = some 0) :
    ∃ sel', rloop last s A.length (sel :: region ++ [endI])
        = { s with stack := List.range n, retainEnd := true,
                   body := A ++ (sel' :: region.map mark ++ [if sel.kind = .else_ then endI else mark endI]) ++ B }
      ∧ sel'.before = sel.before ∧ sel'.after = sel.after ∧ sel'.alt = some (altOf sel repl) := by
  obtain ⟨sel', e2, p⟩ := rstep_alt_starts last s A (region ++ endI :: B) sel repl n hq (by simpa using hb) hst hsel hk
  refine ⟨sel', ?_, p⟩
  have e4 := rstep_end_removed last s (A ++ [sel'] ++ region.map mark) B endI n (sel.kind == .else_) hq hendk
    (fun h => hend (by simpa using h))
  rw [rloop_bracket, e2, show A.length + 1 = (A ++ [sel']).length by simp,
    rloop_removing last n region (removing s n _ _) (A ++ [sel']) (endI :: B) 0 0 hq.entry hq.exit rfl
      (hq.below _) hq.t1 (by simp [removing]) rfl hd2]
  -- what is left is `e4`: the state is `removing s n _ (A ++ [sel'] ++ region.map mark ++ endI :: B)` with the stack written
  -- `range (n + 1 + 0)`, the index is `(A ++ [sel']).length + region.length`; `simp` reassociates the lists, `+arith` sums the lengths
  simpa +arith [removing] using e4

theorem blockAlt_any (f : Func) (pre region post : List Instr) (sel endI : Instr) (repl : List Tok)
    (hbody : f.body = pre ++ sel :: region ++ endI :: post) (hpne : post ≠ [])
    (hsp : f.hasSpecial = true) (hentry : f.entry = []) (hexit : f.exit = [])
    (hpre : ∀ x ∈ pre, Clean x) (hreg : ∀ x ∈ region, Clean x) (hend : Clean endI) (hpost : ∀ x ∈ post, Clean x)
    (hsel : SelOnly sel repl) (hk : sel.kind.isBlockStyle = true) (hendk : endI.kind = .end_)
    (n n2 : Nat) (hd1 : depthAfter pre 1 = some (if sel.kind = .else_ then n + 1 else n)) (hd2 : depthAfter region 0 = some 0)
    (hd3 : depthAfter post n = some n2) :
    lower f = (toks pre ++ repl ++ (if sel.kind = .else_ then [endI.tok] else []) ++ toks post, f.added) := by
  apply lower_between_clean f pre (sel :: region ++ [endI]) post (by simp [hbody]) hpne hsp hentry hexit hpre hpost _ n n2 hd1 hd3
  intro s B hq hr hb hst
  obtain ⟨sel', hrun, p1, p2, p3⟩ := rloop_blockAlt (f.body.length - 1) pre region B sel endI repl s n hq hb hst
    hsel.blockAlt hk hendk (fun _ => hend.cleared) hd2
  refine ⟨sel' :: region.map mark ++ [if sel.kind = .else_ then endI else mark endI], ?_, by simp, ?_⟩
  · -- the removal ends with `retainEnd := true`; `hmid` wants the record `{ s with stack, body }`, whose `retainEnd` is `s.retainEnd`
    rw [hrun, ← hr]
  have hsd : emitMid sel' = repl := by
    rw [emitMid, p1, p2, p3, hsel.before, hsel.after, altOf_none sel repl hsel.alt]; simp
  simp only [List.flatMap_append, List.flatMap_cons, List.flatMap_nil, flatMap_emitMid_marked hreg, hsd]
  split <;> simp [emitMid_clean hend, emitMid_mark hend]

/-- All three lists at once; block-exit code not on an `if`, where it waits for the `else`. `n` is the block id of the construct. -/
theorem rloop_construct (last : Nat) (A region B : List Instr) (sel endI : Instr) (s : RState) (n : Nat)
    (hq : Quiet s) (hb : s.body = A ++ (sel :: region ++ [endI]) ++ B)
    (hst : s.stack = List.range (if sel.kind = .else_ then n + 1 else n))
    (hreg : ∀ x ∈ region, Cleared x) (hend : Cleared endI)
    (hba : sel.blockAlt = none) (hk : sel.kind.isBlockStyle = true) (hif : sel.kind = .if_ → sel.blockExit = [])
    (hendk : endI.kind = .end_) (hd2 : depthAfter region 0 = some 0) :
    ∃ sel' end', rloop last s A.length (sel :: region ++ [endI])
        = { s with stack := List.range n, body := A ++ (sel' :: region ++ [end']) ++ B }
      ∧ Chg sel sel' [] sel.blockEntry ∧ Chg endI end' sel.blockExit sel.semAfter := by
  -- the construct's own instruction parks its code at its block id `n`; block-exit code never in `onElseOrEnd`
  obtain ⟨sel', e2, g2⟩ := rstep_probe last s A (region ++ endI :: B) sel n hq (by simpa using hb) hst hba hk
  have hX : (if sel.kind = .if_ then sel.blockExit else []) = [] ∧ (if sel.kind = .if_ then [] else sel.blockExit) = sel.blockExit := by
    by_cases h : sel.kind = .if_
    · simp [h, hif h]
    · simp [h]
  rw [hX.1, hX.2] at e2
  -- the matching `end` takes what waits for it
  obtain ⟨end', e4, g4⟩ := rstep_end_takes last s (A ++ sel' :: region) B endI n [] sel.blockExit sel.semAfter hq hend hendk
  refine ⟨sel', end', ?_, g2, g4⟩
  rw [rloop_bracket, e2, show A.length + 1 + region.length = (A ++ sel' :: region).length by simp +arith,
    rloop_pass last (n + 1) region (opened s n _ [] _ _) _ 0 0 hreg hq.entry hq.exit hq.del (opened_below ..) rfl rfl hd2]
  simpa [opened] using e4

theorem construct_placed (f : Func) (pre region post : List Instr) (sel endI : Instr)
    (hbody : f.body = pre ++ sel :: region ++ endI :: post) (hpne : post ≠ [])
    (hsp : f.hasSpecial = true) (hentry : f.entry = []) (hexit : f.exit = [])
    (hpre : ∀ x ∈ pre, Clean x) (hreg : ∀ x ∈ region, Clean x) (hend : Clean endI) (hpost : ∀ x ∈ post, Clean x)
    (hba : sel.blockAlt = none) (hk : sel.kind.isBlockStyle = true) (hif : sel.kind = .if_ → sel.blockExit = [])
    (hendk : endI.kind = .end_)
    (n n2 : Nat) (hd1 : depthAfter pre 1 = some (if sel.kind = .else_ then n + 1 else n)) (hd2 : depthAfter region 0 = some 0)
    (hd3 : depthAfter post n = some n2) :
    lower f = (toks pre ++ emitMid sel ++ sel.blockEntry ++ toks region ++ sel.blockExit ++ [endI.tok] ++ sel.semAfter ++ toks post,
      f.added) := by
  apply lower_between_clean f pre (sel :: region ++ [endI]) post (by simp [hbody]) hpne hsp hentry hexit hpre hpost _ n n2 hd1 hd3
  intro s B hq _ hbs hst
  obtain ⟨sel', end', hrun, g1, g2⟩ := rloop_construct (f.body.length - 1) pre region B sel endI s n hq hbs hst
    (fun x hx => (hreg x hx).cleared) hend.cleared hba hk hif hendk hd2
  refine ⟨sel' :: region ++ [end'], hrun, by simp, ?_⟩
  rw [emitMid]
  simp [flatMap_emitMid_clean hreg, g1.emit, g2.emit, hend.before, hend.after, hend.alt]

theorem blockExit_placed (f : Func) (pre region post : List Instr) (sel endI : Instr) (pr : List Tok)
    (hbody : f.body = pre ++ sel :: region ++ endI :: post) (hpne : post ≠ [])
    (hsp : f.hasSpecial = true) (hentry : f.entry = []) (hexit : f.exit = [])
    (hpre : ∀ x ∈ pre, Clean x) (hreg : ∀ x ∈ region, Clean x) (hend : Clean endI) (hpost : ∀ x ∈ post, Clean x)
    (hsel : OnlyExit sel pr) (hk : sel.kind = .block ∨ sel.kind = .loop) (hendk : endI.kind = .end_)
    (n n2 : Nat) (hd1 : depthAfter pre 1 = some n) (hd2 : depthAfter region 0 = some 0) (hd3 : depthAfter post n = some n2) :
    lower f = (toks pre ++ [sel.tok] ++ toks region ++ pr ++ [endI.tok] ++ toks post, f.added) := by
  have hne := opener_blockStyle (hk.imp_right .inl)
  have := construct_placed f pre region post sel endI hbody hpne hsp hentry hexit hpre hreg hend hpost
    hsel.blockAlt hne.2 (fun h => by rw [h] at hk; simp at hk) hendk n n2 (by rw [if_neg hne.1]; exact hd1) hd2 hd3
  simpa [emitMid, hsel.before, hsel.after, hsel.alt, hsel.blockEntry, hsel.blockExit, hsel.semAfter] using this

theorem semAfter_placed (f : Func) (pre region post : List Instr) (sel endI : Instr) (pr : List Tok)
    (hbody : f.body = pre ++ sel :: region ++ endI :: post) (hpne : post ≠ [])
    (hsp : f.hasSpecial = true) (hentry : f.entry = []) (hexit : f.exit = [])
    (hpre : ∀ x ∈ pre, Clean x) (hreg : ∀ x ∈ region, Clean x) (hend : Clean endI) (hpost : ∀ x ∈ post, Clean x)
    (hsel : OnlySemAfter sel pr) (hk : sel.kind = .block ∨ sel.kind = .loop ∨ sel.kind = .if_) (hendk : endI.kind = .end_)
    (n n2 : Nat) (hd1 : depthAfter pre 1 = some n) (hd2 : depthAfter region 0 = some 0) (hd3 : depthAfter post n = some n2) :
    lower f = (toks pre ++ [sel.tok] ++ toks region ++ [endI.tok] ++ pr ++ toks post, f.added) := by
  have hne := opener_blockStyle hk
  have := construct_placed f pre region post sel endI hbody hpne hsp hentry hexit hpre hreg hend hpost
    hsel.blockAlt hne.2 (fun _ => hsel.blockExit) hendk n n2 (by rw [if_neg hne.1]; exact hd1) hd2 hd3
  simpa [emitMid, hsel.before, hsel.after, hsel.alt, hsel.blockEntry, hsel.blockExit, hsel.semAfter] using this

/-- nothing is parked, so what follows need not close the construct -/
theorem blockEntry_placed (f : Func) (pre rest : List Instr) (sel : Instr) (pr : List Tok)
    (hbody : f.body = pre ++ sel :: rest) (hrne : rest ≠ [])
    (hsp : f.hasSpecial = true) (hentry : f.entry = []) (hexit : f.exit = [])
    (hpre : ∀ x ∈ pre, Clean x) (hrest : ∀ x ∈ rest, Clean x) (hsel : OnlyEntry sel pr)
    (hk : sel.kind = .block ∨ sel.kind = .loop ∨ sel.kind = .if_)
    (n n2 : Nat) (hd1 : depthAfter pre 1 = some n) (hd2 : depthAfter rest (n + 1) = some n2) :
    lower f = (toks pre ++ [sel.tok] ++ pr ++ toks rest, f.added) := by
  have hne := opener_blockStyle hk
  apply lower_between_clean f pre [sel] rest (by simp [hbody]) hrne hsp hentry hexit hpre hrest n (n + 1) n2 hd1 hd2
  intro s B hq _ hbs hst
  obtain ⟨sel', hrun, g⟩ := rstep_probe (f.body.length - 1) s pre B sel n hq (by simpa using hbs) (by rw [if_neg hne.1]; exact hst)
    hsel.blockAlt hne.2
  refine ⟨[sel'], ?_, rfl, ?_⟩
  · rw [rloop, rloop, hrun, hsel.blockExit, hsel.semAfter, ite_self, opened_nil hq]
    simp
  · simp [g.emit, hsel.before, hsel.after, hsel.alt, hsel.blockEntry]

/-- The code waits (table `onElseOrEnd`, key `n`) for the `if`'s own `else`, or its `end` when it has none; the then-arm contains nothing
    of level `n` itself (`depthAfterE`). -/
theorem rloop_exit_if (last : Nat) (A arm B : List Instr) (sel closer : Instr) (s : RState) (n : Nat)
    (hq : Quiet s) (hb : s.body = A ++ (sel :: arm ++ [closer]) ++ B) (hst : s.stack = List.range n)
    (harm : ∀ x ∈ arm, Cleared x) (hcl : Cleared closer)
    (hba : sel.blockAlt = none) (hs : sel.semAfter = []) (hk : sel.kind = .if_) (hck : closer.kind = .else_ ∨ closer.kind = .end_)
    (hd2 : depthAfterE arm 0 = some 0) :
    ∃ sel' cl', rloop last s A.length (sel :: arm ++ [closer])
        = { s with stack := List.range (if closer.kind = .else_ then n + 1 else n), body := A ++ (sel' :: arm ++ [cl']) ++ B }
      ∧ Chg sel sel' [] sel.blockEntry ∧ Chg closer cl' sel.blockExit [] := by
  obtain ⟨sel', e2, g2⟩ := rstep_probe last s A (arm ++ closer :: B) sel n hq (by simpa using hb) (by simpa [hk] using hst) hba
    (by rw [hk]; rfl)
  simp only [hk, if_true, hs] at e2
  -- the closer takes it; behind an `else` the construct stays open
  have e4 : ∃ cl', rstep last (opened s n ((A ++ sel' :: arm) ++ closer :: B) sel.blockExit [] []) (A ++ sel' :: arm).length closer
        = { s with stack := List.range (if closer.kind = .else_ then n + 1 else n), body := (A ++ sel' :: arm) ++ cl' :: B }
      ∧ Chg closer cl' sel.blockExit [] := by
    rcases hck with hc | hc
    · obtain ⟨cl', h, g⟩ := rstep_else_takes last s (A ++ sel' :: arm) B closer n sel.blockExit [] [] hq hcl hc
      exact ⟨cl', by rw [h, opened_nil hq, if_pos hc], g⟩
    · obtain ⟨cl', h, g⟩ := rstep_end_takes last s (A ++ sel' :: arm) B closer n sel.blockExit [] [] hq hcl hc
      exact ⟨cl', by rw [h, hc]; rfl, by simpa using g⟩
  obtain ⟨cl', e4, g4⟩ := e4
  refine ⟨sel', cl', ?_, g2, g4⟩
  rw [rloop_bracket, e2, show A.length + 1 + arm.length = (A ++ sel' :: arm).length by simp +arith,
    rloop_passE last (n + 1) arm (opened s n _ _ [] []) _ 0 0 harm hq.entry hq.exit hq.del (opened_below ..) rfl hd2]
  simpa [opened] using e4

theorem blockExit_placed_if (f : Func) (pre arm rest : List Instr) (sel closer : Instr) (pr : List Tok)
    (hbody : f.body = pre ++ sel :: arm ++ closer :: rest) (hrne : rest ≠ [])
    (hsp : f.hasSpecial = true) (hentry : f.entry = []) (hexit : f.exit = [])
    (hpre : ∀ x ∈ pre, Clean x) (harm : ∀ x ∈ arm, Clean x) (hcl : Clean closer) (hrest : ∀ x ∈ rest, Clean x)
    (hsel : OnlyExit sel pr) (hk : sel.kind = .if_) (hck : closer.kind = .else_ ∨ closer.kind = .end_)
    (n n2 : Nat) (hd1 : depthAfter pre 1 = some n) (hd2 : depthAfterE arm 0 = some 0)
    (hd3 : depthAfter rest (if closer.kind = .else_ then n + 1 else n) = some n2) :
    lower f = (toks pre ++ [sel.tok] ++ toks arm ++ pr ++ [closer.tok] ++ toks rest, f.added) := by
  apply lower_between_clean f pre (sel :: arm ++ [closer]) rest (by simp [hbody]) hrne hsp hentry hexit hpre hrest n _ n2 hd1 hd3
  intro s B hq _ hbs hst
  obtain ⟨sel', cl', hrun, g1, g2⟩ := rloop_exit_if (f.body.length - 1) pre arm B sel closer s n hq hbs hst
    (fun x hx => (harm x hx).cleared) hcl.cleared hsel.blockAlt hsel.semAfter hk hck hd2
  refine ⟨sel' :: arm ++ [cl'], hrun, by simp, ?_⟩
  simp [flatMap_emitMid_clean harm, g1.emit, g2.emit, hsel.before, hsel.after, hsel.alt, hsel.blockEntry, hsel.blockExit, hcl.before,
    hcl.after, hcl.alt]

end Orca.Lower
