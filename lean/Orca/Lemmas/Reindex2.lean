import Orca.Lemmas.Reindex
import Orca.Lemmas.InsertSort
/-!
M1 after the loop: what survives `reorganise_generic` (a permutation of the entries not marked deleted), the layout after
`order_imports_generic` (`closed_layout`), the id map of `get_mapping_generic` on a vector without repeated ids, and all of it together
for a vector whose stored ids are its positions (`recalculate_spec`).
-/
namespace Orca.Reindex

theorem keepImp_iff {x : Item} : keepImp x = true ↔ x.imp = true ∧ x.del = false := by simp [keepImp]

theorem keepLoc_iff {x : Item} : keepLoc x = true ↔ x.imp = false ∧ x.del = false := by simp [keepLoc]

theorem filter_split_imp (l : List Item) :
    (l.filter (fun x => !x.del)).Perm (l.filter keepImp ++ l.filter keepLoc) := by
  have := (List.filter_append_perm (fun x => x.imp) (l.filter (fun x => !x.del))).symm
  simp only [List.filter_filter] at this
  exact this

theorem closed_eq (orig : Nat) (xs : List Item) :
    closed orig xs = xs.filter keepImp ++ ((xs.drop orig).filter keepLoc ++ (xs.take orig).filter keepLoc) := by
  rw [closed, ← List.filter_append, List.take_append_drop, List.append_assoc]

theorem reorganise_perm (orig : Nat) (xs : List Item) (h : orig ≤ xs.length) :
    (reorganise orig xs).Perm (xs.filter (fun x => !x.del)) := by
  rw [reorganise_eq orig xs h, closed_eq]
  refine .trans (.append_left _ ?_) (filter_split_imp xs).symm
  conv => rhs; rw [← List.take_append_drop orig xs, List.filter_append]
  exact List.perm_append_comm

theorem reorganise_no_deleted (orig : Nat) (xs : List Item) (h : orig ≤ xs.length) :
    ∀ y ∈ reorganise orig xs, y.del = false := by
  intro y hy
  have := (reorganise_perm orig xs h).subset hy
  simpa using (List.mem_filter.mp this).2

theorem takeWhile_append_of (p : Item → Bool) (A B : List Item) (hA : ∀ a ∈ A, p a = true) (hB : ∀ b ∈ B, p b = false) :
    (A ++ B).takeWhile p = A ∧ (A ++ B).dropWhile p = B := by
  rw [List.takeWhile_append_of_pos hA, List.dropWhile_append_of_pos hA]
  cases B with
  | nil => simp
  | cons b B => simp [hB b (List.mem_cons_self ..)]

theorem _root_.Orca.Edit.closed_layout (orig : Nat) (xs : List Item) (h : orig ≤ xs.length) :
    orderImports (reorganise orig xs)
      = sortImports (xs.filter keepImp) ++ ((xs.drop orig).filter keepLoc ++ (xs.take orig).filter keepLoc) := by
  rw [reorganise_eq orig xs h, closed_eq]
  have := takeWhile_append_of (fun i => i.imp) (xs.filter keepImp) ((xs.drop orig).filter keepLoc ++ (xs.take orig).filter keepLoc)
    (fun a ha => (keepImp_iff.mp (List.mem_filter.mp ha).2).1)
    (fun b hb => by
      rcases List.mem_append.mp hb with hb | hb <;> exact (keepLoc_iff.mp (List.mem_filter.mp hb).2).1)
  rw [orderImports, this.1, this.2]

theorem orderImports_perm (orig : Nat) (xs : List Item) (h : orig ≤ xs.length) :
    (orderImports (reorganise orig xs)).Perm (xs.filter (fun x => !x.del)) := by
  refine .trans ?_ (reorganise_perm orig xs h)
  rw [Orca.Edit.closed_layout orig xs h, reorganise_eq orig xs h, closed_eq]
  exact (sortImports_perm _).append_right _

theorem mappingFrom_none (ys : List Item) : ∀ (pos key : Nat), (∀ y ∈ ys, y.id ≠ key) → mappingFrom ys pos key = none := by
  induction ys with
  | nil => intro pos key _; rfl
  | cons y ys ih =>
    intro pos key h
    simp only [mappingFrom]
    rw [ih (pos + 1) key (fun z hz => h z (by simp [hz]))]
    simp [h y (by simp)]

theorem mappingFrom_some (ys : List Item) : ∀ (pos key p : Nat), (ys.map (·.id)).Nodup →
    (ys[p]?).map (·.id) = some key → mappingFrom ys pos key = some (pos + p) := by
  induction ys with
  | nil => intro pos key p _ h; simp at h
  | cons y ys ih =>
    intro pos key p hnd h
    simp only [List.map_cons, List.nodup_cons] at hnd
    cases p with
    | zero =>
      simp only [List.getElem?_cons_zero, Option.map_some, Option.some.injEq] at h
      have hn : mappingFrom ys (pos + 1) key = none := by
        apply mappingFrom_none
        intro z hz hzk
        apply hnd.1
        rw [h]; rw [← hzk]; exact List.mem_map_of_mem hz
      simp [mappingFrom, hn, h]
    | succ p =>
      simp only [List.getElem?_cons_succ] at h
      have := ih (pos + 1) key p hnd.2 h
      simp only [mappingFrom, this]
      congr 1; omega

theorem mapping_some (ys : List Item) (key p : Nat) (hnd : (ys.map (·.id)).Nodup)
    (h : (ys[p]?).map (·.id) = some key) : mapping ys key = some p := by
  simpa [mapping] using mappingFrom_some ys 0 key p hnd h

theorem mapping_none (ys : List Item) (key : Nat) (h : ∀ y ∈ ys, y.id ≠ key) : mapping ys key = none :=
  mappingFrom_none ys 0 key h

theorem distinctIds_of_nodup (ys : List Item) (h : (ys.map (·.id)).Nodup) : distinctIds ys = ys.length := by
  unfold distinctIds
  have : (ys.map (·.id)).eraseDups = ys.map (·.id) := by
    generalize ys.map (·.id) = l at h
    induction l with
    | nil => simp
    | cons a l ih =>
      simp only [List.nodup_cons] at h
      rw [List.eraseDups_cons]
      have : l.filter (fun b => !b == a) = l := by
        apply List.filter_eq_self.mpr
        intro b hb
        have : b ≠ a := fun hba => h.1 (hba ▸ hb)
        simp [this]
      rw [this, ih h.2]
  rw [this]; simp

/-- before the first encode the stored id of every entry is its position -/
def IdsFresh (xs : List Item) : Prop := ∀ (i : Nat) (x : Item), xs[i]? = some x → x.id = i

theorem idsFresh_id_lt {xs : List Item} (hf : IdsFresh xs) {it : Item} (hit : it ∈ xs) : it.id < xs.length := by
  obtain ⟨i, hi⟩ := List.getElem?_of_mem hit
  rw [hf i it hi]
  exact (List.getElem?_eq_some_iff.mp hi).1

theorem idsFresh_nodup (xs : List Item) (hf : IdsFresh xs) : (xs.map (·.id)).Nodup := by
  have : xs.map (·.id) = List.range xs.length := by
    apply List.ext_getElem?
    intro i
    by_cases hi : i < xs.length
    · have hx : xs[i]? = some xs[i] := List.getElem?_eq_getElem hi
      simp [hi, hf i _ hx]
    · simp [hi]
  rw [this]; exact List.nodup_range

theorem recalculate_spec (orig : Nat) (xs : List Item) (h : orig ≤ xs.length) (hf : IdsFresh xs) :
    ∃ ys, recalculate orig xs = some ys ∧ ys = orderImports (reorganise orig xs)
      ∧ ys.Perm (xs.filter (fun x => !x.del))
      ∧ (∀ i x, xs[i]? = some x → x.del = false → ∃ p, mapping ys i = some p ∧ ys[p]? = some x)
      ∧ (∀ i x, xs[i]? = some x → x.del = true → mapping ys i = none)
      ∧ (∀ i, xs.length ≤ i → mapping ys i = none) := by
  have hperm := orderImports_perm orig xs h
  have hnd0 := idsFresh_nodup xs hf
  have hndf : ((xs.filter (fun x => !x.del)).map (·.id)).Nodup :=
    (hnd0.sublist ((List.filter_sublist).map _))
  have hnd : ((orderImports (reorganise orig xs)).map (·.id)).Nodup :=
    (List.Perm.nodup_iff (hperm.map _)).mpr hndf
  have back : ∀ y ∈ orderImports (reorganise orig xs), y.del = false ∧ xs[y.id]? = some y := by
    intro y hy
    have hy' := List.mem_filter.mp (hperm.subset hy)
    obtain ⟨j, hj⟩ := List.getElem?_of_mem hy'.1
    exact ⟨by simpa using hy'.2, hf j y hj ▸ hj⟩
  refine ⟨orderImports (reorganise orig xs), ?_, rfl, hperm, ?_, ?_, ?_⟩
  · simp [recalculate, rloopOk_true orig xs h, distinctIds_of_nodup _ hnd]
  · intro i x hx hd
    have hmem : x ∈ orderImports (reorganise orig xs) :=
      hperm.symm.subset (List.mem_filter.mpr ⟨List.mem_of_getElem? hx, by simp [hd]⟩)
    obtain ⟨p, hp⟩ := List.getElem?_of_mem hmem
    exact ⟨p, mapping_some _ i p hnd (by simp [hp, hf i x hx]), hp⟩
  · intro i x hx hd
    refine mapping_none _ _ (fun y hy hyi => ?_)
    obtain ⟨hd', hy'⟩ := back y hy
    rw [hyi, hx] at hy'
    cases hy'
    rw [hd] at hd'; cases hd'
  · intro i hi
    refine mapping_none _ _ (fun y hy hyi => ?_)
    have := (List.getElem?_eq_some_iff.mp (back y hy).2).1
    omega

end Orca.Reindex
