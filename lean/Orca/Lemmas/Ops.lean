import Orca.Lemmas.Encode
/-!
Equations of the definitions of M2 — `setItem`, `St.space` / `St.setSpace`, `addImport`, `deleteEntity`, the two conversions
`localToImport` / `replaceImport` as one update each — and the induction over `run`, stated once.
-/
namespace Orca.Edit
open Orca.Reindex

theorem getElem?_lt {α : Type} {l : List α} {i : Nat} {a : α} (h : l[i]? = some a) : i < l.length :=
  (List.getElem?_eq_some_iff.mp h).1

theorem set_split {α : Type} {l : List α} {i : Nat} {a : α} (h : l[i]? = some a) :
    ∃ A B, l = A ++ a :: B ∧ A.length = i ∧ ∀ a', l.set i a' = A ++ a' :: B := by
  obtain ⟨hlt, rfl⟩ := List.getElem?_eq_some_iff.mp h
  refine ⟨l.take i, l.drop (i + 1), ?_, by simp; omega, fun a' => ?_⟩
  · rw [← List.drop_eq_getElem_cons hlt, List.take_append_drop]
  · rw [List.set_eq_take_append_cons_drop, if_pos hlt]

theorem getElem?_setItem (l : List Item) (i j : Nat) (f : Item → Item) :
    (setItem l i f)[j]? = if i = j then l[j]?.map f else l[j]? := by
  unfold setItem
  by_cases hij : i = j
  · subst hij
    cases h : l[i]? with
    | none => simp [h]
    | some x => simp [(List.getElem?_eq_some_iff.mp h).1]
  · simp only [hij, if_false]
    split
    · exact List.getElem?_set_ne hij
    · rfl

@[simp] theorem setItem_length (xs : List Item) (i : Nat) (f : Item → Item) : (setItem xs i f).length = xs.length := by
  unfold setItem; split <;> simp

theorem setItem_eq_set (xs : List Item) (i : Nat) (f : Item → Item) (x : Item) (h : xs[i]? = some x) :
    setItem xs i f = xs.set i (f x) := by
  simp [setItem, h]

@[simp] theorem space_setSpace_same (s : St) (sp : Sp) (x : Space) : (s.setSpace sp x).space sp = x := by
  cases sp <;> rfl

theorem space_setSpace_ne (s : St) (sp sp' : Sp) (x : Space) (h : sp ≠ sp') : (s.setSpace sp x).space sp' = s.space sp' := by
  cases sp <;> cases sp' <;> first | rfl | exact absurd rfl h

@[simp] theorem imports_setSpace (s : St) (sp : Sp) (x : Space) : (s.setSpace sp x).imports = s.imports := by
  cases sp <;> rfl

@[simp] theorem space_withImports (s : St) (imps : List ImpEntry) (sp : Sp) : ({ s with imports := imps } : St).space sp = s.space sp := by
  cases sp <;> rfl

theorem setSpace_with_imports (s : St) (sp : Sp) (X : Space) : ({ s.setSpace sp X with imports := s.imports } : St) = s.setSpace sp X := by
  cases sp <;> rfl

/-- `Module::add_import` reports the vector's length as the id and the import list's length as the `ImportsID` -/
theorem addImport_id (s : St) (sp : Sp) (uid : Nat) :
    (addImport s sp uid).2.1 = (s.space sp).items.length ∧ (addImport s sp uid).2.2 = s.imports.length := ⟨rfl, rfl⟩

theorem addImport_space (s : St) (sp' : Sp) (uid : Nat) (sp : Sp) :
    ((addImport s sp' uid).1.space sp).items = (s.space sp).items := by
  cases sp' <;> cases sp <;> rfl

/-- what `delete_*` does to the vector -/
def markDel (x : Space) (id : Nat) : Space :=
  { x with items := setItem x.items id (fun (it : Item) => { it with del := true }), recalc := true }

theorem getElem?_markDel (x : Space) (id j : Nat) :
    (markDel x id).items[j]? = if id = j then x.items[j]?.map (fun it => { it with del := true }) else x.items[j]? :=
  getElem?_setItem ..

theorem getElem?_markDel_self {x : Space} {id : Nat} {it : Item} (h : x.items[id]? = some it) :
    (markDel x id).items[id]? = some { it with del := true } := by
  rw [getElem?_markDel, if_pos rfl, h]; rfl

theorem markDel_of_getElem? {x : Space} {id : Nat} {it : Item} (h : x.items[id]? = some it) :
    markDel x id = { x with items := x.items.set id { it with del := true }, recalc := true } := by
  rw [markDel, setItem_eq_set _ _ _ _ h]

theorem deleteEntity_space (s : St) (sp' : Sp) (id : Nat) (sp : Sp) :
    (deleteEntity s sp' id).1.space sp = (s.setSpace sp' (markDel (s.space sp') id)).space sp := by
  unfold deleteEntity
  simp only []
  split
  · rfl
  · split
    · split
      · cases sp <;> rfl
      · rfl
    · rfl

theorem deleteEntity_slot (s : St) (sp' : Sp) (id : Nat) (sp : Sp) (j : Nat) (h : sp' = sp → id ≠ j) :
    ((deleteEntity s sp' id).1.space sp).items[j]? = (s.space sp).items[j]? := by
  rw [deleteEntity_space]
  by_cases hs : sp' = sp
  · subst hs; rw [space_setSpace_same, getElem?_markDel, if_neg (h rfl)]
  · rw [space_setSpace_ne _ _ _ _ hs]

theorem deleteEntity_local {s : St} {sp : Sp} {id : Nat} {x : Item} (hx : (s.space sp).items[id]? = some x) (hloc : x.imp = false) :
    deleteEntity s sp id = (s.setSpace sp (markDel (s.space sp) id), Ret.unit) := by
  -- what `deleteEntity` finds when it indexes the marked vector
  have := getElem?_markDel_self hx
  simp only [deleteEntity, markDel] at this ⊢
  simp only [this, hloc, Bool.false_eq_true, if_false]

theorem deleteEntity_imported {s : St} {sp : Sp} {id : Nat} {x : Item} {e : ImpEntry} (hx : (s.space sp).items[id]? = some x)
    (himp : x.imp = true) (he : s.imports[x.impId]? = some e) :
    deleteEntity s sp id
      = ({ s.setSpace sp (markDel (s.space sp) id) with imports := s.imports.set x.impId { e with del := true } }, Ret.unit) := by
  have := getElem?_markDel_self hx
  simp only [deleteEntity, markDel] at this ⊢
  cases sp <;> simp only [this, himp, if_true, St.setSpace, markImportDeleted, he]

theorem deleteEntity_none {s : St} {sp : Sp} {id : Nat} (hx : (s.space sp).items[id]? = none) :
    (deleteEntity s sp id).1 = s.setSpace sp { s.space sp with recalc := true } := by
  simp only [deleteEntity, setItem, hx]

/-- as one update: the deletion in between never panics and leaves no other trace than the flag -/
theorem localToImport_local {s : St} {id : Nat} {x : Item} (hx : s.f.items[id]? = some x) (hloc : x.imp = false) (uid : Nat) :
    localToImport s id uid =
      ({ s with f := { items := s.f.items.set id (mkItem id true uid s.imports.length), recalc := true,
                       numImp := s.f.numImp + 1, numImpAdded := s.f.numImpAdded + 1 },
                imports := s.imports ++ [{ sp := some .F, del := false, uid := uid }] }, Ret.bool true) := by
  have hy := getElem?_markDel_self hx
  simp only [localToImport, hx, hloc, Bool.false_eq_true, if_false, deleteEntity_local (sp := .F) hx hloc, addImport, St.space,
    St.setSpace, setItem_eq_set _ _ _ _ hy]
  -- left: marking the slot and then overwriting it is overwriting it
  simp [markDel_of_getElem? hx]

theorem localToImport_of_not_local {s : St} {id : Nat} (h : ¬ ∃ x, s.f.items[id]? = some x ∧ x.imp = false) (uid : Nat) :
    (localToImport s id uid).1 = s := by
  unfold localToImport
  split
  · rfl
  · split
    · rfl
    · rename_i x hx hloc
      exact absurd ⟨x, hx, by simpa using hloc⟩ h

theorem carrier_spec {items : List Item} {k fid : Nat}
    (h : items.findIdx? (fun (it : Item) => !it.del && it.imp && it.impId == k) = some fid) :
    ∃ x, items[fid]? = some x ∧ x.del = false ∧ x.imp = true ∧ x.impId = k := by
  obtain ⟨hlt, hp, _⟩ := List.findIdx?_eq_some_iff_getElem.mp h
  simp only [Bool.and_eq_true, Bool.not_eq_true', beq_iff_eq] at hp
  exact ⟨_, List.getElem?_eq_getElem hlt, hp.1.1, hp.1.2, hp.2⟩

theorem replaceImport_found {s : St} {k fid : Nat} {e : ImpEntry} (he : s.imports[k]? = some e) (hk : e.sp = some .F)
    (hfind : s.f.items.findIdx? (fun (it : Item) => !it.del && it.imp && it.impId == k) = some fid) (uid : Nat) (sites : List Ref) :
    replaceImport s k uid sites =
      ({ s with f := { s.f with items := s.f.items.set fid (mkItem fid false uid 0), recalc := true },
                imports := s.imports.set k { e with del := true }, code := s.code ++ [(uid, sites)] }, Ret.unit) := by
  obtain ⟨x, hx, _, himp, rfl⟩ := carrier_spec hfind
  have hy := getElem?_markDel_self hx
  simp only [replaceImport, he, hk, bne_self_eq_false, Bool.false_eq_true, if_false, hfind,
    deleteEntity_imported (sp := .F) hx himp he, St.space, St.setSpace, setItem_eq_set _ _ _ _ hy]
  -- left: marking the slot and then overwriting it is overwriting it
  simp [markDel_of_getElem? hx]

theorem replaceImport_of_not_found {s : St} {k : Nat}
    (h : ¬ ∃ e fid, s.imports[k]? = some e ∧ e.sp = some .F
      ∧ s.f.items.findIdx? (fun (it : Item) => !it.del && it.imp && it.impId == k) = some fid) (uid : Nat) (sites : List Ref) :
    (replaceImport s k uid sites).1 = s := by
  unfold replaceImport
  split
  · rfl
  · split
    · rfl
    · split
      · rfl
      · rename_i _ e he hk _ fid hfind
        exact absurd ⟨e, fid, he, by simpa using hk, hfind⟩ h

def KeepsVectors : Op → Prop
  | .inject _ _ | .modGlobalInit _ _ | .addExport _ | .deleteExport _ | .addData _ _ => True
  | _ => False

theorem inject_fst (s : St) (id : Nat) (sites : List Ref) : (inject s id sites).1 = s
    ∨ ∃ it : Item, (inject s id sites).1 = { s with code := setAssoc s.code it.uid (lookup s.code it.uid ++ sites) } := by
  unfold inject
  split
  · exact .inl rfl
  · split
    · exact .inl rfl
    · exact .inr ⟨_, rfl⟩

theorem modGlobalInit_fst (s : St) (id : Nat) (sites : List Ref) : (modGlobalInit s id sites).1 = s
    ∨ ∃ it : Item, (modGlobalInit s id sites).1 = { s with ginit := setAssoc s.ginit it.uid sites } := by
  unfold modGlobalInit
  split
  · split
    · exact .inl rfl
    · exact .inr ⟨_, rfl⟩
  · exact .inl rfl

theorem deleteExport_fst (s : St) (i : Nat) : (deleteExport s i).1 = s
    ∨ ∃ e, s.exports[i]? = some e ∧ (deleteExport s i).1 = { s with exports := s.exports.set i (e.1, true) } := by
  unfold deleteExport
  split
  · exact .inr ⟨_, ‹_›, rfl⟩
  · exact .inl rfl

theorem step_keepsVectors {op : Op} (h : KeepsVectors op) (s : St) :
    (∀ sp, (step s op).1.space sp = s.space sp) ∧ (step s op).1.imports = s.imports := by
  have same : ∀ t : St, t.f = s.f → t.g = s.g → t.m = s.m → t.imports = s.imports →
      (∀ sp, t.space sp = s.space sp) ∧ t.imports = s.imports :=
    fun t a b c d => ⟨fun sp => by cases sp <;> assumption, d⟩
  cases op with
  | inject id sites =>
    rcases inject_fst s id sites with e | ⟨_, e⟩ <;> rw [show (step s (.inject id sites)).1 = _ from e] <;> exact same _ rfl rfl rfl rfl
  | modGlobalInit id sites =>
    rcases modGlobalInit_fst s id sites with e | ⟨_, e⟩ <;> rw [show (step s (.modGlobalInit id sites)).1 = _ from e] <;>
      exact same _ rfl rfl rfl rfl
  | deleteExport i =>
    rcases deleteExport_fst s i with e | ⟨_, _, e⟩ <;> rw [show (step s (.deleteExport i)).1 = _ from e] <;> exact same _ rfl rfl rfl rfl
  | addExport _ | addData _ _ => exact same _ rfl rfl rfl rfl
  | _ => exact h.elim

/-- `Q` is carried along; `H` is what the rest of the history has to satisfy in the state it is applied to (the harness stops at
    the first panic, so `H` is not needed at the end) -/
theorem run_induct {Q : St → Prop} {H : St → List Op → Prop}
    (hstep : ∀ s op ops, Q s → H s (op :: ops) → Q (step s op).1 ∧ H (step s op).1 ops) :
    ∀ ops s, Q s → H s ops → Q (run s ops).1 := by
  intro ops
  induction ops with
  | nil => intro s h _; exact h
  | cons op ops ih =>
    intro s hq hh
    obtain ⟨h1, h2⟩ := hstep s op ops hq hh
    simp only [run]
    split
    · exact h1
    · exact ih _ h1 h2

theorem run_preserves {Q : St → Prop} {P : Op → Prop} (hstep : ∀ s op, Q s → P op → Q (step s op).1)
    (ops : List Op) (s : St) (hq : Q s) (hp : ∀ op ∈ ops, P op) : Q (run s ops).1 :=
  run_induct (H := fun _ ops => ∀ op ∈ ops, P op)
    (fun s op _ hq hp => ⟨hstep s op hq (hp op (List.mem_cons_self ..)), fun o ho => hp o (List.mem_cons_of_mem _ ho)⟩) ops s hq hp

end Orca.Edit
