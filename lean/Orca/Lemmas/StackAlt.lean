import Orca.Lemmas.StackSpec
/-!
The stack machine of Lemmas/StackSpec.lean extended by block alternates: while a construct is being removed (`Del`, the resolver's
`deleteBlock` / `retainEnd`) every instruction is emptied — special lists discarded, `before` / `after` kept, as in the code — up to the
matching `end`; an alternate on an `else` removes the arm and keeps the `end`. `rcoreA_tied`: one iteration of the core is one step of
`specRunA`; on the machine, a removed region leaves the frames around it as they were (`specRunA_alt_open`, `specRunA_alt_else`).
-/
namespace Orca.Lower

/-- the construct being removed: its block id and whether its `end` stays (alternate on an `else`) -/
structure Del where
  d : Nat
  retain : Bool
deriving Repr, DecidableEq

structure PlainA (i : Instr) : Prop where
  altOnly : i.blockAlt.isSome = true → i.kind.isBlockStyle = true
  only : i.kind.isBlockStyle = false → i.semAfter = [] ∧ i.blockEntry = [] ∧ i.blockExit = []

theorem Plain.plainA {i : Instr} (h : Plain i) : PlainA i :=
  ⟨fun hs => by rw [h.blockAlt] at hs; exact absurd hs (by simp), h.only⟩

theorem PlainA.plain {i : Instr} (h : PlainA i) (hb : i.blockAlt = none) : Plain i := ⟨hb, h.only⟩

/-- one instruction: frames, removal state, the code that goes in front of the token (behind the instruction's own `before` list), what
    stands in place of the token (`none`: the token itself), the code that goes behind it (behind the instruction's own `after` list) -/
def specStepA (fr : List Fr) (del : Option Del) (i : Instr) :
    Option (List Fr × Option Del × List Tok × Option (List Tok) × List Tok) :=
  match i.kind with
  | .block | .loop | .if_ =>
    match del with
    | some _ => some ({} :: fr, del, [], some [], [])
    | none =>
      match i.blockAlt with
      | some alt => some ({} :: fr, some ⟨fr.length, false⟩, [], some (altOf i alt), [])
      | none =>
        let f : Fr := if i.kind = .if_ then { ifExit := i.blockExit, afterA := i.semAfter } else { exitB := i.blockExit, afterA := i.semAfter }
        some (f :: fr, none, [], i.alt, i.blockEntry)
  | .else_ =>
    match fr with
    | top :: below :: rest =>
      match del with
      | some _ => some ({ top with ifExit := [] } :: below :: rest, del, top.ifExit, some [], [])
      | none =>
        match i.blockAlt with
        | some alt =>
          some ({ top with ifExit := [] } :: below :: rest, some ⟨rest.length + 1, true⟩, top.ifExit, some (altOf i alt), [])
        | none =>
          some ({ top with ifExit := [], exitB := top.exitB ++ i.blockExit, afterA := top.afterA ++ i.semAfter } :: below :: rest, none,
            top.ifExit, i.alt, i.blockEntry)
    | _ => none
  | .end_ =>
    match fr with
    | top :: rest =>
      match del with
      | some ⟨d, retain⟩ =>
        if d = rest.length then
          if retain then some (rest, none, top.ifExit ++ top.exitB, i.alt, endAfter top)
          else some (rest, none, [], some [], [])
        else some (rest, del, [], some [], [])
      | none => some (rest, none, top.ifExit ++ top.exitB, i.alt, endAfter top)
    | [] => none
  | _ =>
    match del with
    | some _ => some (fr, del, [], some [], [])
    | none => some (fr, none, [], i.alt, [])

def specRunA (last : Nat) : Nat → List Fr → Option Del → List Instr → Option (List Tok)
  | _, fr, _, [] => if fr.isEmpty then some [] else none
  | idx, fr, del, i :: is =>
    match specStepA fr del i with
    | none => none
    | some (fr', del', b, alt, a) =>
      if fr'.isEmpty && !is.isEmpty then none
      else
        match specRunA last (idx + 1) fr' del' is with
        | none => none
        | some rest =>
          some (i.before ++ b ++ (if idx ≥ last then [i.tok] else alt.getD [i.tok]) ++ (if idx ≥ last then [] else i.after ++ a) ++ rest)

theorem specRunA_step {last idx : Nat} {fr fr' : List Fr} {del del' : Option Del} {i : Instr} {is : List Instr} {b a : List Tok}
    {alt : Option (List Tok)} (h : specStepA fr del i = some (fr', del', b, alt, a)) (hfr : fr' ≠ []) (hlt : idx < last) :
    specRunA last idx fr del (i :: is)
      = (specRunA last (idx + 1) fr' del' is).map (fun rest => i.before ++ b ++ alt.getD [i.tok] ++ (i.after ++ a) ++ rest) := by
  have hne : fr'.isEmpty = false := by cases fr' with | nil => exact absurd rfl hfr | cons _ _ => rfl
  have hl : ¬ idx ≥ last := by omega
  simp only [specRunA, h, hne, Bool.false_and, Bool.false_eq_true, if_false, hl]
  cases specRunA last (idx + 1) fr' del' is <;> rfl

structure TiedA (s : RState) (fr : List Fr) (del : Option Del) : Prop where
  tabs : Tabs s fr
  hdel : s.deleteBlock = del.map (·.d)
  inv : ∀ dl : Del, del = some dl → s.retainEnd = dl.retain ∧ dl.d < fr.length ∧ (∀ k, dl.d < k → frAt fr k = {})
    ∧ (dl.retain = false → frAt fr dl.d = {})

theorem Tied.tiedA {s : RState} {fr : List Fr} (h : Tied s fr) : TiedA s fr none :=
  ⟨h.tabs, h.del, fun _ hdl => by cases hdl⟩

theorem TiedA.tied {s : RState} {fr : List Fr} (h : TiedA s fr none) : Tied s fr := h.tabs.tied h.hdel

def ChgA (c c' : Instr) (B : List Tok) (alt : Option (List Tok)) (A : List Tok) : Prop :=
  c'.before = c.before ++ B ∧ c'.after = c.after ++ A ∧ c'.alt = alt ∧ c'.tok = c.tok

section
variable {c c' : Instr} {B A : List Tok} {x : Option (List Tok)} (h : ChgA c c' B x A)
include h
theorem ChgA.before : c'.before = c.before ++ B := h.1
theorem ChgA.after : c'.after = c.after ++ A := h.2.1
theorem ChgA.alt : c'.alt = x := h.2.2.1
theorem ChgA.tok : c'.tok = c.tok := h.2.2.2
end

theorem Chg.before_eq {c c' : Instr} {B A : List Tok} (h : Chg c c' B A) : c'.before = c.before ++ B := h.1

theorem Chg.after_eq {c c' : Instr} {B A : List Tok} (h : Chg c c' B A) : c'.after = c.after ++ A := h.2.1

theorem Chg.alt_eq {c c' : Instr} {B A : List Tok} (h : Chg c c' B A) : c'.alt = c.alt := h.2.2.1

theorem Chg.tok_eq {c c' : Instr} {B A : List Tok} (h : Chg c c' B A) : c'.tok = c.tok := h.2.2.2

theorem Chg.chgA {c c' : Instr} {B A : List Tok} {x : Option (List Tok)} (h : Chg c c' B A) (hc : c.alt = x) : ChgA c c' B x A :=
  ⟨h.before_eq, h.after_eq, h.alt_eq.trans hc, h.tok_eq⟩

theorem mark_chgA (x : Instr) : ChgA x (mark x) [] (some []) [] :=
  ⟨(List.append_nil _).symm, (List.append_nil _).symm, rfl, rfl⟩

theorem ChgA.emitOne {c c' : Instr} {B A : List Tok} {alt : Option (List Tok)} (h : ChgA c c' B alt A) (last idx : Nat) :
    emitOne last idx c'
      = c.before ++ B ++ (if idx ≥ last then [c.tok] else alt.getD [c.tok]) ++ (if idx ≥ last then [] else c.after ++ A) := by
  rw [emitOne_eq, h.before, h.after, h.alt, h.tok]

theorem TiedA.congr {s s' : RState} {fr : List Fr} {del : Option Del} (h : TiedA s fr del) (h1 : s'.stack = s.stack)
    (h2 : s'.deleteBlock = s.deleteBlock) (h3 : s'.retainEnd = s.retainEnd) (h4 : s'.onElseOrEnd = s.onElseOrEnd)
    (h5 : s'.onEndBefore = s.onEndBefore) (h6 : s'.onEndAfter = s.onEndAfter) : TiedA s' fr del :=
  ⟨h.tabs.congr h1 h4 h5 h6, h2.trans h.hdel, fun dl hd => by rw [h3]; exact h.inv dl hd⟩

/-- the part of `TiedA.inv` that speaks of the frames is kept by every change of the frames that leaves empty frames (from the removed
    construct upwards) empty -/
theorem removing_frames {fr fr' : List Fr} {dl : Del} (hlen : dl.d < fr'.length)
    (hz : ∀ k, dl.d ≤ k → frAt fr k = {} → frAt fr' k = {})
    (h : dl.d < fr.length ∧ (∀ k, dl.d < k → frAt fr k = {}) ∧ (dl.retain = false → frAt fr dl.d = {})) :
    dl.d < fr'.length ∧ (∀ k, dl.d < k → frAt fr' k = {}) ∧ (dl.retain = false → frAt fr' dl.d = {}) :=
  ⟨hlen, fun k hk => hz k (Nat.le_of_lt hk) (h.2.1 k hk), fun hr => hz _ (Nat.le_refl _) (h.2.2 hr)⟩

theorem removing_starts (f : Fr) (fr : List Fr) (retain : Bool) (hf : retain = false → f = {}) :
    fr.length < (f :: fr).length ∧ (∀ k, fr.length < k → frAt (f :: fr) k = {}) ∧ (retain = false → frAt (f :: fr) fr.length = {}) :=
  ⟨by simp, fun k hk => frAt_ge _ _ (by simp only [List.length_cons]; omega), fun h => by rw [frAt_cons_top]; exact hf h⟩

theorem TiedA.removing {s : RState} {fr : List Fr} {dl : Del} (ht : Tabs s fr) (hd : s.deleteBlock = some dl.d)
    (hr : s.retainEnd = dl.retain)
    (hf : dl.d < fr.length ∧ (∀ k, dl.d < k → frAt fr k = {}) ∧ (dl.retain = false → frAt fr dl.d = {})) : TiedA s fr (some dl) :=
  ⟨ht, hd, fun _ h => by cases h; exact ⟨hr, hf⟩⟩

theorem rcoreA_removed_other (s : RState) (fr : List Fr) (dl : Del) (done rest : List Instr) (c ins : Instr)
    (ht : TiedA s fr (some dl)) (hb : s.body = done ++ c :: rest)
    (hk : ins.kind ≠ .block ∧ ins.kind ≠ .loop ∧ ins.kind ≠ .if_ ∧ ins.kind ≠ .else_ ∧ ins.kind ≠ .end_) :
    let s' := rcore s done.length ins
    TiedA s' fr (some dl) ∧ Keep s s' ∧ s'.body = done ++ mark c :: rest := by
  rw [rcore_removing s _ ins dl.d ht.hdel hk.2.2.2.2, pass_other s _ (not_blockStyle_of_ne hk) hk.2.2.2.2, markS_mid s done rest c hb]
  exact ⟨ht.congr rfl rfl rfl rfl rfl rfl, ⟨rfl, rfl, rfl, rfl⟩, rfl⟩

theorem rcoreA_removed_open (s : RState) (fr : List Fr) (dl : Del) (done rest : List Instr) (c ins : Instr)
    (ht : TiedA s fr (some dl)) (hb : s.body = done ++ c :: rest) (hk : ins.kind = .block ∨ ins.kind = .loop ∨ ins.kind = .if_) :
    let s' := rcore s done.length ins
    TiedA s' ({} :: fr) (some dl) ∧ Keep s s' ∧ s'.body = done ++ mark c :: rest := by
  rw [rcore_removing s _ ins dl.d ht.hdel (by rcases hk with h | h | h <;> simp [h]), pass_open s _ hk,
    markS_mid { s with stack := s.stack ++ [s.stack.length] } done rest c hb]
  obtain ⟨hret, hfr⟩ := ht.inv dl rfl
  exact ⟨.removing (ht.tabs.push_empty _ rfl rfl rfl rfl) ht.hdel hret
    (removing_frames (by simp only [List.length_cons]; omega) (fun k _ hz => by rw [frAt_cons_empty]; exact hz) hfr),
    ⟨rfl, rfl, rfl, rfl⟩, rfl⟩

theorem rcoreA_removed_else (s : RState) (top : Fr) (rfr : List Fr) (dl : Del) (done rest : List Instr) (c ins : Instr)
    (ht : TiedA s (top :: rfr) (some dl)) (hb : s.body = done ++ c :: rest) (hk : ins.kind = .else_) :
    let s' := rcore s done.length ins
    TiedA s' ({ top with ifExit := [] } :: rfr) (some dl) ∧ Keep s s'
      ∧ ∃ c', s'.body = done ++ c' :: rest ∧ ChgA c c' top.ifExit (some []) [] := by
  have hd : s.deleteBlock = some dl.d := ht.hdel
  -- `flushE` puts `top.ifExit` in front of the `else` (`c1`), then the `else` is emptied like everything in the region
  obtain ⟨c1, hbody1, hchg1, htabs1, hdel1, hret1, hkeep1⟩ := flushE_tabs ht.tabs hb
  obtain ⟨hret, hfr⟩ := ht.inv dl rfl
  obtain ⟨mbefore, mafter, malt, mtok⟩ := mark_fields c1
  simp only [rcore_removing s _ ins dl.d hd (by simp [hk]), hk, pass_else s _ ht.tabs.stack, markS_mid _ done rest c1 hbody1]
  refine ⟨.removing (htabs1.congr rfl rfl rfl rfl) (hdel1.trans hd) (hret1.trans hret)
      (removing_frames (by simpa using hfr.1) (fun k _ hz => ?_) hfr),
    ⟨hkeep1.nlocals, hkeep1.added, hkeep1.entry, hkeep1.exit⟩, mark c1, rfl, mbefore.trans hchg1.before_eq, mafter.trans hchg1.after_eq, malt, mtok.trans hchg1.tok_eq⟩
  rw [frAt_top (fun f => { f with ifExit := [] }), hz]
  split <;> rfl

theorem rcoreA_removed_end (s : RState) (top : Fr) (rfr : List Fr) (dl : Del) (done rest : List Instr) (c ins : Instr)
    (ht : TiedA s (top :: rfr) (some dl)) (hb : s.body = done ++ c :: rest) (hk : ins.kind = .end_)
    (hcase : dl.d ≠ rfr.length ∨ dl.retain = false) :
    let s' := rcore s done.length ins
    TiedA s' rfr (if dl.d = rfr.length then none else some dl) ∧ Keep s s' ∧ s'.body = done ++ mark c :: rest := by
  have hd : s.deleteBlock = some dl.d := ht.hdel
  obtain ⟨hret, hfr⟩ := ht.inv dl rfl
  have ⟨hlt, habove, hown⟩ := hfr
  have hst : s.stack = List.range (rfr.length + 1) := by rw [ht.tabs.stack]; rfl
  have hl : s.stack.getLast? = some rfr.length := by rw [hst]; exact range_succ_getLast _
  have hle : dl.d ≤ rfr.length := by simp only [List.length_cons] at hlt; omega
  -- the frame that is popped holds nothing: it lies above the removed construct, or is that construct's own and goes with its `end`
  have htop : frAt (top :: rfr) rfr.length = {} := by
    by_cases hdd : dl.d = rfr.length
    · exact hdd ▸ hown (hcase.resolve_left (fun h => h hdd))
    · exact habove _ (by omega)
  rw [frAt_cons_top] at htop
  subst htop
  rw [rcore_removing_end s _ ins dl.d rfr.length hd hk hl]
  by_cases hdd : dl.d = rfr.length
  · -- the `end` of the removed construct (not retained): the removal is over
    rw [if_pos hdd, hret, hcase.resolve_left (fun h => h hdd), if_pos hdd, hst, range_succ_dropLast, hb, markAt_mid]
    exact ⟨⟨ht.tabs.pop_empty rfl rfl rfl rfl, rfl, fun dl' h => by cases h⟩, ⟨rfl, rfl, rfl, rfl⟩, rfl⟩
  · -- an `end` of a construct inside the region
    rw [if_neg hdd, if_neg hdd, hst, range_succ_dropLast, hb, markAt_mid]
    exact ⟨.removing (ht.tabs.pop_empty rfl rfl rfl rfl) ht.hdel hret
      (removing_frames (by omega) (fun k _ hz => by rw [← frAt_cons_empty]; exact hz) hfr), ⟨rfl, rfl, rfl, rfl⟩, rfl⟩

theorem rcoreA_retained_end (s : RState) (top : Fr) (rfr : List Fr) (dl : Del) (done rest : List Instr) (c ins : Instr)
    (hp : PlainA ins) (ht : TiedA s (top :: rfr) (some dl)) (hb : s.body = done ++ c :: rest) (hk : ins.kind = .end_)
    (hdd : dl.d = rfr.length) (hr : dl.retain = true) :
    let s' := rcore s done.length ins
    TiedA s' rfr none ∧ Keep s s' ∧ ∃ c', s'.body = done ++ c' :: rest ∧ Chg c c' (top.ifExit ++ top.exitB) (endAfter top) := by
  obtain ⟨hret, -⟩ := ht.inv dl rfl
  have hst : s.stack = List.range (rfr.length + 1) := by rw [ht.tabs.stack]; rfl
  obtain ⟨z1, z2, z3⟩ := hp.only (by rw [hk]; rfl)
  -- the removal is over and the `end` is kept: it flushes its frame as an ordinary `end` does
  obtain ⟨c', hbody, hchg, htabs, hdel, -, hkeep⟩ :=
    endE_tabs (s := { s with deleteBlock := none, retainEnd := true }) (ht.tabs.congr rfl rfl rfl rfl) hb
  rw [rcore_removing_end s _ ins dl.d rfr.length ht.hdel hk (hst ▸ range_succ_getLast _), if_pos hdd, hret, hr, if_pos rfl, hst,
    range_succ_dropLast, planSpecial_nospecial _ _ ins z1 z2 z3]
  -- `hkeep` speaks of `s` with the removal switched off, which has the fields of `s` that `Keep` reads
  exact ⟨⟨htabs, hdel, nofun⟩, ⟨hkeep.nlocals, hkeep.added, hkeep.entry, hkeep.exit⟩, c', hbody, hchg⟩

theorem rcoreA_start_open (s : RState) (fr : List Fr) (done rest : List Instr) (c ins : Instr) (alt : List Tok)
    (hca : c.alt = ins.alt) (ht : TiedA s fr none) (hb : s.body = done ++ c :: rest) (hk : ins.kind = .block ∨ ins.kind = .loop ∨ ins.kind = .if_)
    (ha : ins.blockAlt = some alt) :
    let s' := rcore s done.length ins
    TiedA s' ({} :: fr) (some ⟨fr.length, false⟩) ∧ Keep s s' ∧ ∃ c', s'.body = done ++ c' :: rest ∧ ChgA c c' [] (some (altOf ins alt)) [] := by
  have hst : (s.stack ++ [s.stack.length]) = List.range (fr.length + 1) := by rw [ht.tabs.stack]; exact range_push _
  obtain ⟨y, hy, ybefore, yafter, yalt, ytok⟩ := startS_mid { s with stack := s.stack ++ [s.stack.length] } done rest c alt false hb
  rw [rcore_start s _ ins alt ha ht.hdel (by rcases hk with h | h | h <;> simp [h]), pass_open s _ hk,
    show (ins.kind == .else_) = false by rcases hk with h | h | h <;> rw [h] <;> rfl, hy, hst, top_range_succ]
  exact ⟨.removing (ht.tabs.push_empty _ hst.symm rfl rfl rfl) rfl rfl (removing_starts {} fr false fun _ => rfl), ⟨rfl, rfl, rfl, rfl⟩,
    y, rfl, by simp [ybefore], by simp [yafter], by rw [yalt, altOf, altOf, hca], ytok⟩

theorem rcoreA_start_else (s : RState) (top : Fr) (rfr : List Fr) (done rest : List Instr) (c ins : Instr) (alt : List Tok)
    (hca : c.alt = ins.alt) (ht : TiedA s (top :: rfr) none) (hb : s.body = done ++ c :: rest) (hk : ins.kind = .else_)
    (ha : ins.blockAlt = some alt) :
    let s' := rcore s done.length ins
    TiedA s' ({ top with ifExit := [] } :: rfr) (some ⟨rfr.length, true⟩) ∧ Keep s s'
      ∧ ∃ c', s'.body = done ++ c' :: rest ∧ ChgA c c' top.ifExit (some (altOf ins alt)) [] := by
  -- `flushE` puts `top.ifExit` in front of the `else` (`c1`), then `startS` writes the alternate onto it (`y`)
  obtain ⟨c1, hbody1, hchg1, htabs1, -, -, hkeep1⟩ := flushE_tabs ht.tabs hb
  obtain ⟨y, hy, ybefore, yafter, yalt, ytok⟩ := startS_mid (flushE s done.length rfr.length) done rest c1 alt true hbody1
  simp only [rcore_start s _ ins alt ha ht.hdel (by simp [hk]), hk, pass_else s _ ht.tabs.stack, beq_self_eq_true, hy, flushE_stack,
    ht.tabs.stack, List.length_cons, top_range_succ]
  exact ⟨.removing (htabs1.congr ((flushE_stack s _ _).trans ht.tabs.stack).symm rfl rfl rfl) rfl rfl (removing_starts _ rfr true nofun),
    ⟨hkeep1.nlocals, hkeep1.added, hkeep1.entry, hkeep1.exit⟩, y, rfl, ybefore.trans hchg1.before_eq, yafter.trans hchg1.after_eq,
    by rw [yalt, altOf, altOf, hchg1.alt_eq.trans hca], ytok.trans hchg1.tok_eq⟩

theorem specStepA_plain (fr : List Fr) (x : Instr) (hba : x.blockAlt = none) :
    specStepA fr none x = (specStep fr x).map (fun r => (r.1, none, r.2.1, x.alt, r.2.2)) := by
  unfold specStepA specStep
  rw [hba]
  cases x.kind with
  | else_ =>
    match fr with
    | [] | [_] | _ :: _ :: _ => rfl
  | end_ => cases fr <;> rfl
  | block | loop | if_ | br _ | brIf _ | brTable _ _ | exitLike | other => rfl

theorem rcoreA_tied (s : RState) (fr : List Fr) (del : Option Del) (done rest : List Instr) (c ins : Instr) (hp : PlainA ins)
    (hca : c.alt = ins.alt)
    (ht : TiedA s fr del) (hb : s.body = done ++ c :: rest) (fr' : List Fr) (del' : Option Del) (B : List Tok) (alt : Option (List Tok))
    (A : List Tok) (hs : specStepA fr del ins = some (fr', del', B, alt, A)) :
    let s' := rcore s done.length ins
    TiedA s' fr' del' ∧ Keep s s' ∧ ∃ c', s'.body = done ++ c' :: rest ∧ ChgA c c' B alt A := by
  cases del with
  | some dl =>
    cases hk : ins.kind with
    | block | loop | if_ =>
      all_goals
        simp only [specStepA, hk, Option.some.injEq, Prod.mk.injEq] at hs
        obtain ⟨rfl, rfl, rfl, rfl, rfl⟩ := hs
        obtain ⟨htied, hkeep, hbody⟩ := rcoreA_removed_open s fr dl done rest c ins ht hb (by simp [hk])
        exact ⟨htied, hkeep, mark c, hbody, mark_chgA c⟩
    | else_ =>
      cases fr with
      | nil => simp [specStepA, hk] at hs
      | cons top rfr =>
        cases rfr with
        | nil => simp [specStepA, hk] at hs
        | cons below rfr =>
          simp only [specStepA, hk, Option.some.injEq, Prod.mk.injEq] at hs
          obtain ⟨rfl, rfl, rfl, rfl, rfl⟩ := hs
          exact rcoreA_removed_else s top (below :: rfr) dl done rest c ins ht hb hk
    | end_ =>
      cases fr with
      | nil => simp [specStepA, hk] at hs
      | cons top rfr =>
        obtain ⟨d, retain⟩ := dl
        simp only [specStepA, hk] at hs
        by_cases hdd : d = rfr.length
        · cases hr : retain with
          | true =>
            simp only [hdd, hr, if_true, Option.some.injEq, Prod.mk.injEq] at hs
            obtain ⟨rfl, rfl, rfl, rfl, rfl⟩ := hs
            obtain ⟨htied, hkeep, c', hbody, hchg⟩ := rcoreA_retained_end s top rfr ⟨d, retain⟩ done rest c ins hp ht hb hk hdd hr
            exact ⟨htied, hkeep, c', hbody, hchg.chgA hca⟩
          | false =>
            simp only [hdd, hr, if_true, Bool.false_eq_true, if_false, Option.some.injEq, Prod.mk.injEq] at hs
            obtain ⟨rfl, rfl, rfl, rfl, rfl⟩ := hs
            obtain ⟨htied, hkeep, hbody⟩ := rcoreA_removed_end s top rfr ⟨d, retain⟩ done rest c ins ht hb hk (.inr hr)
            simp only [hdd, if_true] at htied
            exact ⟨htied, hkeep, mark c, hbody, mark_chgA c⟩
        · simp only [hdd, if_false, Option.some.injEq, Prod.mk.injEq] at hs
          obtain ⟨rfl, rfl, rfl, rfl, rfl⟩ := hs
          obtain ⟨htied, hkeep, hbody⟩ := rcoreA_removed_end s top rfr ⟨d, retain⟩ done rest c ins ht hb hk (.inl hdd)
          simp only [hdd, if_false] at htied
          exact ⟨htied, hkeep, mark c, hbody, mark_chgA c⟩
    | br _ | brIf _ | brTable _ _ | exitLike | other =>
      all_goals
        simp only [specStepA, hk, Option.some.injEq, Prod.mk.injEq] at hs
        obtain ⟨rfl, rfl, rfl, rfl, rfl⟩ := hs
        obtain ⟨htied, hkeep, hbody⟩ := rcoreA_removed_other s fr dl done rest c ins ht hb (by simp [hk])
        exact ⟨htied, hkeep, mark c, hbody, mark_chgA c⟩
  | none =>
    cases hba : ins.blockAlt with
    | none =>
      -- nothing is being removed and nothing starts: the plain stack machine
      rw [specStepA_plain fr ins hba, Option.map_eq_some_iff] at hs
      obtain ⟨⟨fr1, B1, A1⟩, h1, he⟩ := hs
      cases he
      obtain ⟨htied, hkeep, c', hbody, hchg⟩ := rcore_tied s fr done rest c ins (hp.plain hba) ht.tied hb fr1 B1 A1 h1
      exact ⟨htied.tiedA, hkeep, c', hbody, hchg.chgA hca⟩
    | some altT =>
      have hbs := hp.altOnly (by simp [hba])
      cases hk : ins.kind with
      | block | loop | if_ =>
        all_goals
          simp only [specStepA, hk, hba, Option.some.injEq, Prod.mk.injEq] at hs
          obtain ⟨rfl, rfl, rfl, rfl, rfl⟩ := hs
          exact rcoreA_start_open s fr done rest c ins altT hca ht hb (by simp [hk]) hba
      | else_ =>
        cases fr with
        | nil => simp [specStepA, hk] at hs
        | cons top rfr =>
          cases rfr with
          | nil => simp [specStepA, hk] at hs
          | cons below rfr =>
            simp only [specStepA, hk, hba, Option.some.injEq, Prod.mk.injEq] at hs
            obtain ⟨rfl, rfl, rfl, rfl, rfl⟩ := hs
            exact rcoreA_start_else s top (below :: rfr) done rest c ins altT hca ht hb hk hba
      | end_ | br _ | brIf _ | brTable _ _ | exitLike | other =>
        all_goals simp [hk, Kind.isBlockStyle] at hbs

def stripModeA := stripMode

theorem specStepA_stripMode (fr : List Fr) (del : Option Del) (i : Instr) : specStepA fr del (stripMode i) = specStepA fr del i := rfl

/-- what the instructions of a removed region still contribute: their `before` and `after` lists (the code keeps those) -/
def removedToks (xs : List Instr) : List Tok := xs.flatMap (fun i => i.before ++ i.after)

-- `{}` without an expected type elaborates as `EmptyCollection Fr`, not as the structure instance `specStepA` pushes
def emptyFr : Fr := {}

theorem specStepA_in_region (dl : Del) (a b : Fr) (base' : List Fr) (ha : a.ifExit = []) (hd : dl.d < base'.length + 2) (x : Instr)
    (m m1 : Nat) (h1 : depthStep x.kind m = some m1) :
    specStepA (List.replicate m emptyFr ++ a :: b :: base') (some dl) x
      = some (List.replicate m1 emptyFr ++ a :: b :: base', some dl, [], some [], []) := by
  unfold specStepA
  revert h1
  cases x.kind with
  | block | loop | if_ | br _ | brIf _ | brTable _ _ | exitLike | other => all_goals (intro h1; cases h1; rfl)
  | else_ =>
    intro h1
    cases h1
    match m with
    | 0 =>
      -- an `else` at the level of the removed construct: its frame `a` has no `ifExit` code left
      obtain ⟨_, _, _, _⟩ := a
      cases ha
      rfl
    | 1 | _ + 2 => rfl
  | end_ =>
    match m with
    | 0 => intro h1; cases h1
    | k + 1 =>
      intro h1
      cases h1
      -- an inner `end`: the block id it closes lies above the removed construct's
      obtain ⟨d0, r0⟩ := dl
      have hne : ¬ d0 = (List.replicate k emptyFr ++ a :: b :: base').length := by
        simp only [List.length_append, List.length_replicate, List.length_cons]; simp only at hd; omega
      simp only [List.replicate_succ, List.cons_append, hne, if_false, Nat.add_sub_cancel]

/-- inside a removed region the machine only pushes and pops empty frames and emits the instructions' plain lists -/
theorem specRunA_region (last : Nat) (dl : Del) (a b : Fr) (base' : List Fr) (ha : a.ifExit = []) (hd : dl.d < base'.length + 2) :
    ∀ (xs rest : List Instr) (idx m m' : Nat), depthAfter xs m = some m' → idx + xs.length ≤ last →
      specRunA last idx (List.replicate m emptyFr ++ a :: b :: base') (some dl) (xs ++ rest)
        = (specRunA last (idx + xs.length) (List.replicate m' emptyFr ++ a :: b :: base') (some dl) rest).map (removedToks xs ++ ·) := by
  intro xs
  induction xs with
  | nil =>
    intro rest idx m m' hdep _
    cases hdep
    cases h : specRunA last idx (List.replicate m emptyFr ++ a :: b :: base') (some dl) rest <;> simp [removedToks, h]
  | cons x xs ih =>
    intro rest idx m m' hdep hl
    simp only [depthAfter, Option.bind_eq_some_iff] at hdep
    obtain ⟨m1, h1, hdep⟩ := hdep
    simp only [List.length_cons] at hl
    rw [List.cons_append, specRunA_step (specStepA_in_region dl a b base' ha hd x m m1 h1) (by simp) (by omega),
      ih rest (idx + 1) m1 m' hdep (by omega), Option.map_map, List.length_cons,
      show idx + 1 + xs.length = idx + (xs.length + 1) by omega]
    congr 1
    funext o
    simp [removedToks, List.append_assoc]

theorem specRunA_alt_open (last idx : Nat) (b : Fr) (base' : List Fr) (X endI : Instr) (region post : List Instr) (alt : List Tok)
    (hk : X.kind = .block ∨ X.kind = .loop ∨ X.kind = .if_) (hx : X.blockAlt = some alt) (hreg : depthAfter region 0 = some 0)
    (hend : endI.kind = .end_) (hl : idx + region.length + 2 ≤ last) (hpost : post ≠ []) :
    specRunA last idx (b :: base') none (X :: (region ++ endI :: post))
      = (specRunA last (idx + region.length + 2) (b :: base') none post).map
          (fun o => X.before ++ altOf X alt ++ X.after ++ removedToks region ++ endI.before ++ endI.after ++ o) := by
  have hstepX : specStepA (b :: base') none X
      = some (emptyFr :: b :: base', some ⟨base'.length + 1, false⟩, [], some (altOf X alt), []) := by
    unfold specStepA
    rw [hx]
    rcases hk with h | h | h <;> rw [h] <;> rfl
  -- the `end` of the removed construct
  have hstepE : specStepA (emptyFr :: b :: base') (some ⟨base'.length + 1, false⟩) endI
      = some (b :: base', none, [], some [], []) := by
    unfold specStepA
    rw [hend]
    exact if_pos rfl
  have hr := specRunA_region last ⟨base'.length + 1, false⟩ emptyFr b base' rfl (by simp) region (endI :: post) (idx + 1) 0 0 hreg
    (by omega)
  simp only [List.replicate_zero, List.nil_append] at hr
  rw [specRunA_step hstepX (by simp) (by omega), hr, specRunA_step hstepE (by simp) (by omega), Option.map_map, Option.map_map,
    show idx + 1 + region.length + 1 = idx + region.length + 2 by omega]
  congr 1
  funext o
  simp [List.append_assoc]

theorem specRunA_retained_end_eq (last idx : Nat) (a : Fr) (rest : List Fr) (endI : Instr) (post : List Instr) (hend : endI.kind = .end_) :
    specRunA last idx (a :: rest) (some ⟨rest.length, true⟩) (endI :: post) = specRunA last idx (a :: rest) none (endI :: post) := by
  have h : specStepA (a :: rest) (some ⟨rest.length, true⟩) endI = specStepA (a :: rest) none endI := by
    unfold specStepA
    rw [hend]
    exact if_pos rfl
  rw [specRunA, specRunA, h]

theorem specRunA_alt_else (last idx : Nat) (top b : Fr) (base' : List Fr) (X endI : Instr) (region post : List Instr) (alt : List Tok)
    (hk : X.kind = .else_) (hx : X.blockAlt = some alt) (hreg : depthAfter region 0 = some 0)
    (hend : endI.kind = .end_) (hl : idx + region.length + 1 ≤ last) :
    specRunA last idx (top :: b :: base') none (X :: (region ++ endI :: post))
      = (specRunA last (idx + region.length + 1) ({ top with ifExit := [] } :: b :: base') none (endI :: post)).map
          (fun o => X.before ++ top.ifExit ++ altOf X alt ++ X.after ++ removedToks region ++ o) := by
  have hstepX : specStepA (top :: b :: base') none X
      = some ({ top with ifExit := [] } :: b :: base', some ⟨base'.length + 1, true⟩, top.ifExit, some (altOf X alt), []) := by
    unfold specStepA
    rw [hk, hx]
  have hr := specRunA_region last ⟨base'.length + 1, true⟩ { top with ifExit := [] } b base' rfl (by simp) region (endI :: post) (idx + 1) 0 0 hreg
    (by omega)
  simp only [List.replicate_zero, List.nil_append] at hr
  have he := specRunA_retained_end_eq last (idx + 1 + region.length) { top with ifExit := [] } (b :: base') endI post hend
  simp only [List.length_cons] at he
  rw [specRunA_step hstepX (by simp) (by omega), hr, he, Option.map_map, show idx + 1 + region.length = idx + region.length + 1 by omega]
  congr 1
  funext o
  simp [List.append_assoc]

end Orca.Lower
