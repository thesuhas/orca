import Orca.Lemmas.SemBranch
/-! Programs without semantic-after on branches: the simulation is the instance `F = []` of the branch simulation. Such a
    program is in its scope, has no flags, and states that agree up to no locals are equal. -/
namespace Orca.Sem

variable {fns : List Callee}

theorem leave_lowered {ann : Ann} {base : List Nat} {a : Nat} {ob : Out} (hp : ob.noPend) :
    Out.onNormal (fun x => x.fire ann.after) (leaveBlock false {} base a (Out.onNormal (fun x => x.fire ann.exit) ob))
      = leaveBlock true ann base a ob
    ∧ (leaveBlock true ann base a ob).noPend := by
  cases ob with
  | br n pd s' =>
    simp only [Out.noPend] at hp; subst hp
    cases n <;> simp [leaveBlock, Out.onNormal, saPs, Out.noPend]
  | _ => simp [leaveBlock, Out.onNormal, Out.noPend]

theorem FlagEq.eq_of_nil {s s' : St} (h : FlagEq [] s s') : s' = s := by
  obtain ⟨st, lo, gl, me, tr⟩ := s
  obtain ⟨st', lo', gl', me', tr'⟩ := s'
  obtain ⟨h1, h2, h3, h4, _, h6⟩ := h
  simp only at h1 h2 h3 h4 h6
  subst h1 h2 h3 h4
  rw [List.ext_getElem? fun i => h6 i List.not_mem_nil]

theorem OutRel.eq_of_nil {o o' : Out} (h : OutRel [] o o') (hp : o.noPend) : o' = o := by
  cases o with
  | br n pd s => cases hp; obtain ⟨r, rfl, hfe⟩ := h.br_inv; rw [hfe.eq_of_nil]
  | normal s => obtain ⟨r, rfl, hfe⟩ := h.normal_inv; rw [hfe.eq_of_nil]
  | ret s => obtain ⟨r, rfl, hfe⟩ := h.ret_inv; rw [hfe.eq_of_nil]
  | trap s => obtain ⟨r, rfl, hfe⟩ := h.trap_inv; rw [hfe.eq_of_nil]
  | stuck w => exact h.elim

/-- Without semantic-after probes on branches (`noSAL`) every placement of the lowering is right: a finished monitored run of `p` is
    reproduced — control, state, trace — by the lowered `p` with the monitor off. -/
theorem lower_sim {fx : List Nat} {f : Nat} {p : List Instr} {s : St} {o : Out}
    (hns : noSAL p = true) (h : run fns true fx f p s = o) (ok : o.ok = true) :
    RunsL fns false [] (lowerL fx p) s o ∧ o.noPend := by
  obtain ⟨hfl, _, hsc, hpend⟩ := noSAL_scope p hns
  obtain ⟨o', hr, hrel, _, hpo⟩ := branch_sim (fns := fns) (F := []) hsc (by simp [hfl]) (by simp [hfl]) h ok
    (FlagEq.refl [] s) (by simp [hfl])
  have hnp : o.noPend := hpo.noPend hrel hpend
  exact ⟨hrel.eq_of_nil hnp ▸ hr, hnp⟩

theorem lower_sim_run {fx : List Nat} {f : Nat} {p : List Instr} {s : St} {o : Out}
    (hns : noSAL p = true) (h : run fns true fx f p s = o) (ok : o.ok = true) :
    ∃ g, run fns false [] g (lowerL fx p) s = o :=
  let ⟨⟨g, e, _⟩, _⟩ := lower_sim (fns := fns) hns h ok
  ⟨g, e⟩

theorem FOutRel.eq_of_nil {a b : FOut} (h : FOutRel [] a b) : b = a := by
  cases a <;> cases b <;> simp only [FOutRel] at h
  · obtain ⟨rfl, h⟩ := h; rw [h.eq_of_nil]
  · rw [h.eq_of_nil]

/-- `lower_sim` at function level (empty operand stack at the call): entry / exit probes and the exit wrapper included. -/
theorem lowerF_sim (F : Func) (hns : noSAL F.body = true) (s : St) (hs : s.stack = []) (f : Nat)
    (ok : (runFunc fns true f F s).ok = true) :
    ∃ g, runFunc fns false g (lowerF F) s = runFunc fns true f F s := by
  obtain ⟨hfl, _, hsc, hpend⟩ := noSAL_scope F.body hns
  obtain ⟨g, h⟩ := branch_lowerF_sim (fns := fns) [] F hsc (by simp [hfl]) (by simp [hfl]) hpend s s hs (FlagEq.refl [] s)
    (by simp [hfl]) f ok
  exact ⟨g, h.eq_of_nil⟩

end Orca.Sem
