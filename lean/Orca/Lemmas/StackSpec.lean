import Orca.Lemmas.Resolver
/-!
`resolve_special_instrumentation` keeps what waits for an `end` / `else` in three tables keyed by block id (the nesting depth at which
the construct was opened). Read by block id, the tables are a stack of frames, one per open construct (`Tabs`), and one iteration of the
core `rcore` is one step of the stack machine `specRun` (`rcore_tied`), for whatever instruction stands in the body. On the machine,
no block-level probe is lost (`specRun_keeps`). The induction over the body is in Lemmas/StackFull.lean, for the complete machine.
-/
namespace Orca.Lower

/-- what is waiting for the `else` / `end` of one open construct -/
structure Fr where
  ifExit : List Tok := []     -- block-exit probes of an `if`, waiting for its `else` or `end`
  exitB : List Tok := []      -- block-exit probes waiting for the `end`
  afterA : List Tok := []     -- semantic-after probes (of constructs) waiting for the `end`
  afterFl : List (List Tok × Nat) := []   -- semantic-after probes of branches that target the construct: body and flag local
deriving Repr

/-- what goes behind the `end` that closes the frame: the flag-guarded bodies, then the unguarded ones -/
def endAfter (f : Fr) : List Tok := chainToks f.afterFl ++ f.afterA

/-- the frame of the construct with block id `k` (ids count from the outside: the function body is 0) -/
def frAt (fr : List Fr) (k : Nat) : Fr := (fr.reverse[k]?).getD {}

theorem frAt_cons_lt (f : Fr) (fr : List Fr) (k : Nat) (h : k < fr.length) : frAt (f :: fr) k = frAt fr k := by
  unfold frAt
  rw [List.reverse_cons, List.getElem?_append_left (by simpa using h)]

theorem frAt_cons_top (f : Fr) (fr : List Fr) : frAt (f :: fr) fr.length = f := by
  unfold frAt
  rw [List.reverse_cons, List.getElem?_append_right (by simp)]
  simp

theorem frAt_ge (fr : List Fr) (k : Nat) (h : fr.length ≤ k) : frAt fr k = {} := by
  unfold frAt
  rw [List.getElem?_eq_none (by simpa using h)]
  rfl

theorem frAt_push (f : Fr) (fr : List Fr) (k : Nat) : frAt (f :: fr) k = if k = fr.length then f else frAt fr k := by
  by_cases h : k = fr.length
  · subst h; simp [frAt_cons_top]
  · simp only [h, if_false]
    rcases Nat.lt_or_ge k fr.length with hl | hg
    · exact frAt_cons_lt f fr k hl
    · rw [frAt_ge fr k hg, frAt_ge (f :: fr) k (by simp; omega)]

theorem frAt_cons_empty (fr : List Fr) (k : Nat) : frAt ({} :: fr) k = frAt fr k := by
  rw [frAt_push]
  split
  · rename_i h; rw [h, frAt_ge fr _ (Nat.le_refl _)]
  · rfl

theorem frAt_top (g : Fr → Fr) (top : Fr) (rfr : List Fr) (k : Nat) :
    frAt (g top :: rfr) k = if k = rfr.length then g (frAt (top :: rfr) k) else frAt (top :: rfr) k := by
  by_cases h : k = rfr.length
  · rw [if_pos h, h, frAt_cons_top, frAt_cons_top]
  · rw [if_neg h, frAt_push, frAt_push, if_neg h, if_neg h]

theorem frAt_ext (a b : List Fr) (hl : a.length = b.length) (h : ∀ k, k < a.length → frAt a k = frAt b k) : a = b := by
  refine List.reverse_inj.mp (List.ext_getElem (by simp [hl]) ?_)
  intro k h1 h2
  have := h k (by simpa using h1)
  unfold frAt at this
  rwa [List.getElem?_eq_getElem h1, List.getElem?_eq_getElem h2] at this

/-- the scope: no block alternates, special lists only on `block` / `loop` / `if` / `else` (instruction-level alternates are allowed:
    the resolver leaves them alone and the encoder writes them in place of the instruction) -/
structure Plain (i : Instr) : Prop where
  blockAlt : i.blockAlt = none
  only : i.kind.isBlockStyle = false → i.semAfter = [] ∧ i.blockEntry = [] ∧ i.blockExit = []

/-- one instruction: the frames afterwards, and the code that ends up in front of its token (behind its own `before` list) and behind
    it (behind its own `after` list) -/
def specStep (fr : List Fr) (i : Instr) : Option (List Fr × List Tok × List Tok) :=
  match i.kind with
  | .block | .loop => some ({ exitB := i.blockExit, afterA := i.semAfter } :: fr, [], i.blockEntry)
  | .if_ => some ({ ifExit := i.blockExit, afterA := i.semAfter } :: fr, [], i.blockEntry)
  | .else_ =>
    -- an `else` belongs to an `if`: there is a frame below the one it continues (at least the function body's)
    match fr with
    | top :: below :: rest =>
      some ({ top with ifExit := [], exitB := top.exitB ++ i.blockExit, afterA := top.afterA ++ i.semAfter } :: below :: rest, top.ifExit,
        i.blockEntry)
    | _ => none
  | .end_ =>
    match fr with
    | top :: rest => some (rest, top.ifExit ++ top.exitB, endAfter top)
    | [] => none
  | _ => some (fr, [], [])

/-- the encoded function according to the stack machine (`none`: the body is not well nested) -/
def specRun (last : Nat) : Nat → List Fr → List Instr → Option (List Tok)
  | _, fr, [] => if fr.isEmpty then some [] else none      -- every construct (and the function body) has been closed
  | idx, fr, i :: is =>
    match specStep fr i with
    | none => none
    | some (fr', b, a) =>
      -- the function body's own frame is closed by the last instruction only
      if fr'.isEmpty && !is.isEmpty then none
      else
        match specRun last (idx + 1) fr' is with
        | none => none
        | some rest =>
          some (i.before ++ b ++ (if idx ≥ last then [i.tok] else i.alt.getD [i.tok]) ++ (if idx ≥ last then [] else i.after ++ a) ++ rest)

theorem specStep_stripMode (fr : List Fr) (i : Instr) : specStep fr (stripMode i) = specStep fr i := rfl

/-- the resolver's state agrees with a stack of frames -/
structure Tied (s : RState) (fr : List Fr) : Prop where
  del : s.deleteBlock = none
  stack : s.stack = List.range fr.length
  f1 : ∀ k, (getInj s.onElseOrEnd k).flagged = []
  f2 : ∀ k, (getInj s.onEndBefore k).flagged = []
  t1 : ∀ k, flat (getInj s.onElseOrEnd k) = (frAt fr k).ifExit
  t2 : ∀ k, flat (getInj s.onEndBefore k) = (frAt fr k).exitB
  t3 : ∀ k, flat (getInj s.onEndAfter k) = (frAt fr k).afterA
  t3f : ∀ k, (getInj s.onEndAfter k).flagged = (frAt fr k).afterFl

def Keep (s s' : RState) : Prop := s'.nlocals = s.nlocals ∧ s'.added = s.added ∧ s'.entry = s.entry ∧ s'.exit = s.exit

section
variable {s s' : RState} (h : Keep s s')
include h
theorem Keep.nlocals : s'.nlocals = s.nlocals := h.1
theorem Keep.added : s'.added = s.added := h.2.1
theorem Keep.entry : s'.entry = s.entry := h.2.2.1
theorem Keep.exit : s'.exit = s.exit := h.2.2.2
end

theorem Keep.refl (s : RState) : Keep s s := ⟨rfl, rfl, rfl, rfl⟩

theorem Keep.trans {a b c : RState} (h1 : Keep a b) (h2 : Keep b c) : Keep a c :=
  ⟨h2.nlocals.trans h1.nlocals, h2.added.trans h1.added, h2.entry.trans h1.entry, h2.exit.trans h1.exit⟩

theorem range_push (n : Nat) : List.range n ++ [(List.range n).length] = List.range (n + 1) := by
  rw [List.length_range, List.range_succ]

/-- tables and stack agree with the frames (everything of `Tied` except "nothing is being removed"): read by block id (`frOf`), the
    three tables hold the `k`-th frame of the stack, for every `k` (`tabs_iff`). What `flushE`, `endE` and `planSpecial` do to the tables
    is a change of the top frame; a block id whose table entries are empty is an empty frame. -/
structure Tabs (s : RState) (fr : List Fr) : Prop where
  stack : s.stack = List.range fr.length
  f1 : ∀ k, (getInj s.onElseOrEnd k).flagged = []
  f2 : ∀ k, (getInj s.onEndBefore k).flagged = []
  t1 : ∀ k, flat (getInj s.onElseOrEnd k) = (frAt fr k).ifExit
  t2 : ∀ k, flat (getInj s.onEndBefore k) = (frAt fr k).exitB
  t3 : ∀ k, flat (getInj s.onEndAfter k) = (frAt fr k).afterA
  t3f : ∀ k, (getInj s.onEndAfter k).flagged = (frAt fr k).afterFl

theorem Tied.tabs {s : RState} {fr : List Fr} (h : Tied s fr) : Tabs s fr :=
  ⟨h.stack, h.f1, h.f2, h.t1, h.t2, h.t3, h.t3f⟩

theorem Tabs.tied {s : RState} {fr : List Fr} (h : Tabs s fr) (hd : s.deleteBlock = none) : Tied s fr :=
  ⟨hd, h.stack, h.f1, h.f2, h.t1, h.t2, h.t3, h.t3f⟩

theorem Tabs.congr {s s' : RState} {fr : List Fr} (h : Tabs s fr) (h1 : s'.stack = s.stack) (h4 : s'.onElseOrEnd = s.onElseOrEnd)
    (h5 : s'.onEndBefore = s.onEndBefore) (h6 : s'.onEndAfter = s.onEndAfter) : Tabs s' fr :=
  ⟨h1.trans h.stack, by rw [h4]; exact h.f1, by rw [h5]; exact h.f2, by rw [h4]; exact h.t1,
    by rw [h5]; exact h.t2, by rw [h6]; exact h.t3, by rw [h6]; exact h.t3f⟩

def frOf (s : RState) (k : Nat) : Fr :=
  { ifExit := flat (getInj s.onElseOrEnd k), exitB := flat (getInj s.onEndBefore k),
    afterA := flat (getInj s.onEndAfter k), afterFl := (getInj s.onEndAfter k).flagged }

def NoFlag (s : RState) : Prop := ∀ k, (getInj s.onElseOrEnd k).flagged = [] ∧ (getInj s.onEndBefore k).flagged = []

theorem tabs_iff {s : RState} {fr : List Fr} :
    Tabs s fr ↔ s.stack = List.range fr.length ∧ NoFlag s ∧ ∀ k, frOf s k = frAt fr k := by
  constructor
  · intro h
    refine ⟨h.stack, fun k => ⟨h.f1 k, h.f2 k⟩, fun k => ?_⟩
    rw [frOf, h.t1, h.t2, h.t3, h.t3f]
  · rintro ⟨h2, h3, h4⟩
    exact ⟨h2, fun k => (h3 k).1, fun k => (h3 k).2, fun k => congrArg Fr.ifExit (h4 k), fun k => congrArg Fr.exitB (h4 k),
      fun k => congrArg Fr.afterA (h4 k), fun k => congrArg Fr.afterFl (h4 k)⟩

theorem tied_init (body : List Instr) (entry exit : List Tok) (nlocals : Nat) :
    Tied ({ body := body, entry := entry, exit := exit, nlocals := nlocals } : RState) [{}] :=
  -- the tables are empty, and so is the one frame
  (tabs_iff.mpr ⟨rfl, fun _ => ⟨rfl, rfl⟩, fun k => by cases k <;> rfl⟩).tied rfl

theorem frOf_flushE (s : RState) (idx n k : Nat) :
    frOf (flushE s idx n) k = if k = n then { frOf s k with ifExit := [] } else frOf s k := by
  obtain ⟨h1, h2, h3⟩ := flushE_tables s idx n
  rw [frOf, h1, h2, h3, getInj_removeInj]
  split <;> rfl

theorem NoFlag_flushE {s : RState} (h : NoFlag s) (idx n : Nat) : NoFlag (flushE s idx n) := by
  obtain ⟨h1, h2, -⟩ := flushE_tables s idx n
  intro k
  rw [h1, h2, getInj_removeInj]
  split
  · exact ⟨rfl, (h k).2⟩
  · exact h k

theorem frOf_endE (s : RState) (idx n k : Nat) :
    frOf (endE s idx n) k = if k = n then {} else frOf s k := by
  have h : (endE s idx n).onElseOrEnd = removeInj s.onElseOrEnd n ∧ (endE s idx n).onEndBefore = removeInj s.onEndBefore n
      ∧ (endE s idx n).onEndAfter = removeInj s.onEndAfter n := by
    obtain ⟨h1, h2, h3⟩ := flushE_tables s idx n
    exact ⟨h1, by show removeInj (flushE s idx n).onEndBefore n = _; rw [h2],
      by show removeInj (flushE s idx n).onEndAfter n = _; rw [h3]⟩
  rw [frOf, h.1, h.2.1, h.2.2, getInj_removeInj, getInj_removeInj, getInj_removeInj]
  split <;> rfl

theorem flat_addFlat_if (tbl : List (Nat × ToInject)) (n k : Nat) (c : Prop) [Decidable c] (x : List Tok) :
    flat (getInj (if c ∧ x ≠ [] then addFlat tbl n x else tbl) k) = flat (getInj tbl k) ++ (if k = n ∧ c then x else [])
    ∧ (getInj (if c ∧ x ≠ [] then addFlat tbl n x else tbl) k).flagged = (getInj tbl k).flagged := by
  by_cases hc : c ∧ x ≠ []
  · rw [if_pos hc, addFlat_flat, addFlat_flagged]
    by_cases hk : k = n <;> simp [hk, hc.1]
  · rw [if_neg hc]
    refine ⟨?_, rfl⟩
    by_cases hcc : c
    · have : x = [] := Decidable.byContradiction fun hx => hc ⟨hcc, hx⟩
      simp [this]
    · simp [hcc]

/-- what a block-style instruction adds to the frame of its own block id -/
def Fr.plus (f : Fr) (ins : Instr) : Fr :=
  { f with ifExit := f.ifExit ++ (if ins.kind = .if_ then ins.blockExit else []),
           exitB := f.exitB ++ (if ins.kind = .if_ then [] else ins.blockExit),
           afterA := f.afterA ++ ins.semAfter }

theorem Tabs.map_top {s s' : RState} {top : Fr} {rfr : List Fr} (h : Tabs s (top :: rfr)) (g : Fr → Fr) (hst : s'.stack = s.stack)
    (hn : NoFlag s') (hf : ∀ k, frOf s' k = if k = rfr.length then g (frOf s k) else frOf s k) : Tabs s' (g top :: rfr) := by
  obtain ⟨h1, -, h3⟩ := tabs_iff.mp h
  refine tabs_iff.mpr ⟨hst.trans h1, hn, fun k => ?_⟩
  rw [hf, h3]
  exact (frAt_top g top rfr k).symm

theorem Tabs.push_empty {s : RState} {fr : List Fr} (h : Tabs s fr) (s' : RState)
    (h3 : s'.stack = s.stack ++ [s.stack.length]) (h4 : s'.onElseOrEnd = s.onElseOrEnd) (h5 : s'.onEndBefore = s.onEndBefore)
    (h6 : s'.onEndAfter = s.onEndAfter) : Tabs s' ({} :: fr) := by
  obtain ⟨hst, hn, hf⟩ := tabs_iff.mp h
  refine tabs_iff.mpr ⟨by rw [h3, hst]; exact range_push _, fun k => by rw [h4, h5]; exact hn k, fun k => ?_⟩
  rw [frOf, h4, h5, h6, frAt_cons_empty]
  exact hf k

theorem Tabs.pop_empty {s s' : RState} {rfr : List Fr} (h : Tabs s ({} :: rfr))
    (h3 : s'.stack = List.range rfr.length) (h4 : s'.onElseOrEnd = s.onElseOrEnd)
    (h5 : s'.onEndBefore = s.onEndBefore) (h6 : s'.onEndAfter = s.onEndAfter) : Tabs s' rfr := by
  obtain ⟨-, hn, hf⟩ := tabs_iff.mp h
  refine tabs_iff.mpr ⟨h3, fun k => by rw [h4, h5]; exact hn k, fun k => ?_⟩
  rw [frOf, h4, h5, h6, ← frAt_cons_empty]
  exact hf k

theorem planSpecial_tabs {s : RState} {top : Fr} {rfr : List Fr} (h : Tabs s (top :: rfr)) {A B : List Instr} {c : Instr} (ins : Instr)
    (hk : ins.kind.isBlockStyle = true) (hb : s.body = A ++ c :: B) :
    ∃ c', (planSpecial s A.length ins).body = A ++ c' :: B ∧ Chg c c' [] ins.blockEntry
      ∧ Tabs (planSpecial s A.length ins) (top.plus ins :: rfr)
      ∧ (planSpecial s A.length ins).deleteBlock = s.deleteBlock ∧ (planSpecial s A.length ins).retainEnd = s.retainEnd
      ∧ Keep s (planSpecial s A.length ins) := by
  obtain ⟨hst, hn, -⟩ := tabs_iff.mp h
  obtain ⟨c', e, g⟩ := planSpecial_blockStyle s A B c ins hk hb
  rw [show Lower.top s.stack = rfr.length by rw [hst]; exact top_range_succ _] at e
  rw [e]
  refine ⟨c', rfl, g, h.map_top (·.plus ins) rfl (fun k => ?_) (fun k => ?_), rfl, rfl, rfl, rfl, rfl, rfl⟩
  · obtain ⟨-, a2⟩ := flat_addFlat_if s.onElseOrEnd rfr.length k (ins.kind = .if_) ins.blockExit
    obtain ⟨-, b2⟩ := flat_addFlat_if s.onEndBefore rfr.length k (ins.kind ≠ .if_) ins.blockExit
    exact ⟨a2.trans (hn k).1, b2.trans (hn k).2⟩
  · obtain ⟨a1, -⟩ := flat_addFlat_if s.onElseOrEnd rfr.length k (ins.kind = .if_) ins.blockExit
    obtain ⟨b1, -⟩ := flat_addFlat_if s.onEndBefore rfr.length k (ins.kind ≠ .if_) ins.blockExit
    obtain ⟨d1, d2⟩ := flat_addFlat_if s.onEndAfter rfr.length k True ins.semAfter
    simp only [true_and] at d1 d2
    simp only [frOf, a1, b1, d1, d2, Fr.plus]
    by_cases hkk : k = rfr.length <;> by_cases hi : ins.kind = .if_ <;> simp [hkk, hi]

theorem flushE_tabs {s : RState} {top : Fr} {rfr : List Fr} (h : Tabs s (top :: rfr)) {A B : List Instr} {c : Instr}
    (hb : s.body = A ++ c :: B) :
    ∃ c', (flushE s A.length rfr.length).body = A ++ c' :: B ∧ Chg c c' top.ifExit []
      ∧ Tabs (flushE s A.length rfr.length) ({ top with ifExit := [] } :: rfr)
      ∧ (flushE s A.length rfr.length).deleteBlock = s.deleteBlock ∧ (flushE s A.length rfr.length).retainEnd = s.retainEnd
      ∧ Keep s (flushE s A.length rfr.length) := by
  obtain ⟨-, hn, hf⟩ := tabs_iff.mp h
  obtain ⟨c', e, g⟩ := flushE_eq s A B c rfr.length hb
  have g : Chg c c' (frOf s rfr.length).ifExit [] := by rw [resolveBodies_noflag _ (hn _).1] at g; exact g
  rw [hf, frAt_cons_top] at g
  refine ⟨c', by rw [e], g, h.map_top (fun f => { f with ifExit := [] }) (flushE_stack ..) (NoFlag_flushE hn _ _) (frOf_flushE s _ _),
    flushE_deleteBlock .., by rw [e], by rw [e]; exact ⟨rfl, rfl, rfl, rfl⟩⟩

theorem endE_tabs {s : RState} {top : Fr} {rfr : List Fr} (h : Tabs s (top :: rfr)) {A B : List Instr} {c : Instr}
    (hb : s.body = A ++ c :: B) :
    ∃ c', (endE { s with stack := List.range rfr.length } A.length rfr.length).body = A ++ c' :: B
      ∧ Chg c c' (top.ifExit ++ top.exitB) (endAfter top)
      ∧ Tabs (endE { s with stack := List.range rfr.length } A.length rfr.length) rfr
      ∧ (endE { s with stack := List.range rfr.length } A.length rfr.length).deleteBlock = s.deleteBlock
      ∧ (endE { s with stack := List.range rfr.length } A.length rfr.length).retainEnd = s.retainEnd
      ∧ Keep s (endE { s with stack := List.range rfr.length } A.length rfr.length) := by
  obtain ⟨-, hn, hf⟩ := tabs_iff.mp h
  obtain ⟨c', e, g⟩ := endE_eq { s with stack := List.range rfr.length } A B c rfr.length hb
  have g : Chg c c' ((frOf s rfr.length).ifExit ++ (frOf s rfr.length).exitB) (endAfter (frOf s rfr.length)) := by
    rw [resolveBodies_noflag _ (hn _).1, resolveBodies_noflag _ (hn _).2, resolveBodies_eq] at g; exact g
  rw [hf, frAt_cons_top] at g
  refine ⟨c', by rw [e], g, tabs_iff.mpr ⟨by rw [e], fun k => ?_, fun k => ?_⟩, by rw [e], by rw [e], by rw [e]; exact ⟨rfl, rfl, rfl, rfl⟩⟩
  · rw [e]
    show (getInj (removeInj s.onElseOrEnd rfr.length) k).flagged = [] ∧ (getInj (removeInj s.onEndBefore rfr.length) k).flagged = []
    rw [getInj_removeInj, getInj_removeInj]
    split
    · exact ⟨rfl, rfl⟩
    · exact hn k
  · rw [frOf_endE]
    show (if k = rfr.length then {} else frOf s k) = _
    rw [hf, frAt_push]
    split
    · rename_i hkk; rw [hkk, frAt_ge rfr _ (Nat.le_refl _)]
    · rfl

theorem rcore_open (s : RState) (fr : List Fr) (done rest : List Instr) (c ins : Instr) (hp : Plain ins)
    (ht : Tied s fr) (hb : s.body = done ++ c :: rest) (hk : ins.kind = .block ∨ ins.kind = .loop ∨ ins.kind = .if_) :
    let s' := rcore s done.length ins
    let f : Fr := if ins.kind = .if_ then { ifExit := ins.blockExit, afterA := ins.semAfter }
                  else { exitB := ins.blockExit, afterA := ins.semAfter }
    Tied s' (f :: fr) ∧ Keep s s' ∧ ∃ c', s'.body = done ++ c' :: rest ∧ Chg c c' [] ins.blockEntry := by
  have hbs : ins.kind.isBlockStyle = true := by rcases hk with h | h | h <;> rw [h] <;> rfl
  -- an empty frame is pushed, and the opener's own lists join it
  obtain ⟨c', hbody, hchg, htabs, hdel, -, hkeep⟩ :=
    planSpecial_tabs (ht.tabs.push_empty { s with stack := s.stack ++ [s.stack.length] } rfl rfl rfl rfl) ins hbs hb
  have hf : ({} : Fr).plus ins = if ins.kind = .if_ then { ifExit := ins.blockExit, afterA := ins.semAfter }
      else { exitB := ins.blockExit, afterA := ins.semAfter } := by
    by_cases hi : ins.kind = .if_ <;> simp [Fr.plus, hi]
  simp only [rcore_plain s _ ins hp.blockAlt ht.del, pass_open s _ hk, ← hf]
  -- `hkeep` speaks of the state with the block id pushed, which differs from `s` in `stack` only
  exact ⟨htabs.tied (hdel.trans ht.del), ⟨hkeep.nlocals, hkeep.added, hkeep.entry, hkeep.exit⟩, c', hbody, hchg⟩

theorem rcore_else (s : RState) (top : Fr) (rfr : List Fr) (done rest : List Instr) (c ins : Instr) (hp : Plain ins)
    (ht : Tied s (top :: rfr)) (hb : s.body = done ++ c :: rest) (hk : ins.kind = .else_) :
    let s' := rcore s done.length ins
    let f : Fr := { top with ifExit := [], exitB := top.exitB ++ ins.blockExit, afterA := top.afterA ++ ins.semAfter }
    Tied s' (f :: rfr) ∧ Keep s s' ∧ ∃ c', s'.body = done ++ c' :: rest ∧ Chg c c' top.ifExit ins.blockEntry := by
  -- the `else` flushes what its `if` parked for it, then its own lists join the frame
  obtain ⟨c1, hbody1, hchg1, htabs1, hdel1, -, hkeep1⟩ := flushE_tabs ht.tabs hb
  obtain ⟨c', hbody, hchg2, htabs, hdel2, -, hkeep2⟩ := planSpecial_tabs htabs1 ins (by rw [hk]; rfl) hbody1
  have hf : ({ top with ifExit := [] } : Fr).plus ins
      = { top with ifExit := [], exitB := top.exitB ++ ins.blockExit, afterA := top.afterA ++ ins.semAfter } := by
    simp [Fr.plus, hk]
  simp only [rcore_plain s _ ins hp.blockAlt ht.del, hk, pass_else s _ ht.stack, ← hf]
  -- `hchg1.trans hchg2` puts `top.ifExit ++ []` in front and `[] ++ ins.blockEntry` behind
  exact ⟨htabs.tied (hdel2.trans (hdel1.trans ht.del)), hkeep1.trans hkeep2, c', hbody, by simpa using hchg1.trans hchg2⟩

theorem rcore_end (s : RState) (top : Fr) (rfr : List Fr) (done rest : List Instr) (c ins : Instr) (hp : Plain ins)
    (ht : Tied s (top :: rfr)) (hb : s.body = done ++ c :: rest) (hk : ins.kind = .end_) :
    let s' := rcore s done.length ins
    Tied s' rfr ∧ Keep s s' ∧ ∃ c', s'.body = done ++ c' :: rest ∧ Chg c c' (top.ifExit ++ top.exitB) (endAfter top) := by
  obtain ⟨z1, z2, z3⟩ := hp.only (by rw [hk]; rfl)
  obtain ⟨c', hbody, hchg, htabs, hdel, -, hkeep⟩ := endE_tabs ht.tabs hb
  simp only [rcore_plain s _ ins hp.blockAlt ht.del, planSpecial_nospecial _ _ ins z1 z2 z3, hk, pass_end s _ ht.stack]
  exact ⟨htabs.tied (hdel.trans ht.del), hkeep, c', hbody, hchg⟩

theorem rcore_tied (s : RState) (fr : List Fr) (done rest : List Instr) (c ins : Instr) (hp : Plain ins)
    (ht : Tied s fr) (hb : s.body = done ++ c :: rest) (fr' : List Fr) (B A : List Tok) (hs : specStep fr ins = some (fr', B, A)) :
    let s' := rcore s done.length ins
    Tied s' fr' ∧ Keep s s' ∧ ∃ c', s'.body = done ++ c' :: rest ∧ Chg c c' B A := by
  cases hk : ins.kind with
  | block | loop | if_ =>
    all_goals
      simp only [specStep, hk, Option.some.injEq, Prod.mk.injEq] at hs
      obtain ⟨rfl, rfl, rfl⟩ := hs
      have := rcore_open s fr done rest c ins hp ht hb (by simp [hk])
      simpa only [hk, reduceCtorEq, if_false, if_true] using this
  | else_ =>
    cases fr with
    | nil => simp [specStep, hk] at hs
    | cons top rfr =>
      cases rfr with
      | nil => simp [specStep, hk] at hs
      | cons below rfr =>
        simp only [specStep, hk, Option.some.injEq, Prod.mk.injEq] at hs
        obtain ⟨rfl, rfl, rfl⟩ := hs
        exact rcore_else s top (below :: rfr) done rest c ins hp ht hb hk
  | end_ =>
    cases fr with
    | nil => simp [specStep, hk] at hs
    | cons top rfr =>
      simp only [specStep, hk, Option.some.injEq, Prod.mk.injEq] at hs
      obtain ⟨rfl, rfl, rfl⟩ := hs
      exact rcore_end s top rfr done rest c ins hp ht hb hk
  | br _ | brIf _ | brTable _ _ | exitLike | other =>
    all_goals
      simp only [specStep, hk, Option.some.injEq, Prod.mk.injEq] at hs
      obtain ⟨rfl, rfl, rfl⟩ := hs
      have hnb : ins.kind.isBlockStyle = false := by rw [hk]; rfl
      obtain ⟨z1, z2, z3⟩ := hp.only hnb
      rw [rcore_other s _ ins hnb (by simp [hk]) ht.del, planSpecial_nospecial _ _ ins z1 z2 z3]
      exact ⟨ht, Keep.refl s, c, hb, Chg.refl c⟩

theorem mem_chain (fl : List (List Tok × Nat)) : ∀ (first : Bool) (e : List Tok × Nat) (t : Tok), e ∈ fl → t ∈ e.1 →
    t ∈ resolveBodies.chain fl first := by
  induction fl with
  | nil => intro _ _ _ h; cases h
  | cons a fl ih =>
    intro first e t he ht
    obtain ⟨body, flg⟩ := a
    rcases List.mem_cons.mp he with rfl | he
    · cases first <;> simp [resolveBodies.chain, ht]
    · have := ih false e t he ht
      cases first <;> simp [resolveBodies.chain, this]

theorem mem_endAfter (f : Fr) (t : Tok) (h : t ∈ f.afterA ∨ ∃ e ∈ f.afterFl, t ∈ e.1) : t ∈ endAfter f := by
  unfold endAfter chainToks
  rcases h with h | ⟨e, he, ht⟩
  · exact List.mem_append_right _ h
  · exact List.mem_append_left _ (List.mem_append_left _ (mem_chain _ true e t he ht))

def depthNext (k : Kind) (d : Nat) : Nat :=
  match k with
  | .block | .loop | .if_ => d + 1
  | .end_ => d - 1
  | _ => d

/-- `t` waits in the frames: in front of an `else` / `end` (any frame), or behind an `end` (any frame but the function body's own,
    whose `after` code the encoder drops) -/
def Pend (fr : List Fr) (t : Tok) : Prop :=
  (∃ k, k < fr.length ∧ (t ∈ (frAt fr k).ifExit ∨ t ∈ (frAt fr k).exitB))
  ∨ (∃ k, 1 ≤ k ∧ k < fr.length ∧ (t ∈ (frAt fr k).afterA ∨ ∃ e ∈ (frAt fr k).afterFl, t ∈ e.1))

theorem Pend_cons (f : Fr) (fr : List Fr) (t : Tok) :
    Pend (f :: fr) t ↔
      ((t ∈ f.ifExit ∨ t ∈ f.exitB) ∨ (fr ≠ [] ∧ (t ∈ f.afterA ∨ ∃ e ∈ f.afterFl, t ∈ e.1))) ∨ Pend fr t := by
  have hpos : fr ≠ [] ↔ 1 ≤ fr.length := by rw [Nat.one_le_iff_ne_zero, ne_eq, ne_eq, List.length_eq_zero_iff]
  constructor
  · rintro (⟨k, hk, h⟩ | ⟨k, h1, hk, h⟩) <;> rw [frAt_push] at h <;> by_cases hkk : k = fr.length
    · rw [if_pos hkk] at h; exact .inl (.inl h)
    · rw [if_neg hkk] at h; exact .inr (.inl ⟨k, by simp at hk; omega, h⟩)
    · rw [if_pos hkk] at h; exact .inl (.inr ⟨hpos.mpr (hkk ▸ h1), h⟩)
    · rw [if_neg hkk] at h; exact .inr (.inr ⟨k, h1, by simp at hk; omega, h⟩)
  · rintro ((h | ⟨hne, h⟩) | ⟨k, hk, h⟩ | ⟨k, h1, hk, h⟩)
    · exact .inl ⟨fr.length, by simp, by rw [frAt_cons_top]; exact h⟩
    · exact .inr ⟨fr.length, hpos.mp hne, by simp, by rw [frAt_cons_top]; exact h⟩
    · exact .inl ⟨k, by simp; omega, by rw [frAt_cons_lt f fr k hk]; exact h⟩
    · exact .inr ⟨k, h1, by simp; omega, by rw [frAt_cons_lt f fr k hk]; exact h⟩

theorem not_Pend_nil (t : Tok) : ¬ Pend [] t := by
  rintro (⟨k, hk, _⟩ | ⟨k, _, hk, _⟩) <;> simp at hk

theorem Pend.front {f : Fr} {fr : List Fr} {t : Tok} (h : t ∈ f.ifExit ∨ t ∈ f.exitB) : Pend (f :: fr) t :=
  (Pend_cons ..).mpr (.inl (.inl h))

theorem Pend.behind {f : Fr} {fr : List Fr} {t : Tok} (hne : fr ≠ []) (h : t ∈ f.afterA ∨ ∃ e ∈ f.afterFl, t ∈ e.1) :
    Pend (f :: fr) t :=
  (Pend_cons ..).mpr (.inl (.inr ⟨hne, h⟩))

theorem Pend.below {f : Fr} {fr : List Fr} {t : Tok} (h : Pend fr t) : Pend (f :: fr) t :=
  (Pend_cons ..).mpr (.inr h)

/-- `A` counts only when a frame is left, i.e. this is not the last instruction (the encoder drops `after` code at the final `end`) -/
theorem specStep_keeps {fr fr' : List Fr} {x : Instr} {B A : List Tok} (h : specStep fr x = some (fr', B, A)) (hfr : fr ≠ []) :
    fr'.length - 1 = depthNext x.kind (fr.length - 1)
    ∧ ∀ {out : List Tok}, (∀ t ∈ B, t ∈ out) → (fr' ≠ [] → ∀ t ∈ A, t ∈ out) → (∀ t, Pend fr' t → t ∈ out) →
        (∀ t, Pend fr t → t ∈ out)
        ∧ (x.kind.isBlockStyle = true → ∀ t, t ∈ x.blockEntry ∨ t ∈ x.blockExit ∨ t ∈ x.semAfter → t ∈ out) := by
  have hpos : 1 ≤ fr.length := List.length_pos_iff.mpr hfr
  cases hk : x.kind with
  | block | loop | if_ =>
    -- the opener's entry code is emitted; its exit code (`ifExit` for an `if`, `exitB` otherwise) and its semantic-after code wait in
    -- the frame it pushes
    all_goals
      simp only [specStep, hk, Option.some.injEq, Prod.mk.injEq] at h
      obtain ⟨rfl, rfl, rfl⟩ := h
      refine ⟨by simp [depthNext]; omega, fun {out} hB hA hP => ⟨fun t ht => hP t (.below ht), ?_⟩⟩
      rintro - t (ht | ht | ht)
      · exact hA (by simp) t ht
      · exact hP t (.front (by simp [ht]))
      · exact hP t (.behind hfr (.inl ht))
  | else_ =>
    -- the top frame's `ifExit` is emitted, the `else`'s own lists join the frame
    match fr, h with
    | top :: below :: rest, h =>
      simp only [specStep, hk, Option.some.injEq, Prod.mk.injEq] at h
      obtain ⟨rfl, rfl, rfl⟩ := h
      refine ⟨by simp [depthNext], fun {out} hB hA hP => ⟨fun t ht => ?_, ?_⟩⟩
      · rcases (Pend_cons ..).mp ht with ((ht | ht) | ⟨hne, ht | ht⟩) | ht
        · exact hB t ht
        · exact hP t (.front (.inr (List.mem_append_left _ ht)))
        · exact hP t (.behind hne (.inl (List.mem_append_left _ ht)))
        · exact hP t (.behind hne (.inr ht))
        · exact hP t (.below ht)
      · rintro - t (ht | ht | ht)
        · exact hA (by simp) t ht
        · exact hP t (.front (.inr (List.mem_append_right _ ht)))
        · exact hP t (.behind (by simp) (.inl (List.mem_append_right _ ht)))
    | [_], h => simp [specStep, hk] at h
  | end_ =>
    -- the top frame is emitted around the `end`
    match fr, h with
    | top :: rest, h =>
      simp only [specStep, hk, Option.some.injEq, Prod.mk.injEq] at h
      obtain ⟨rfl, rfl, rfl⟩ := h
      refine ⟨by simp [depthNext], fun {out} hB hA hP => ⟨fun t ht => ?_, fun hb => by simp [Kind.isBlockStyle] at hb⟩⟩
      rcases (Pend_cons ..).mp ht with ((ht | ht) | ⟨hne, ht⟩) | ht
      · exact hB t (List.mem_append_left _ ht)
      · exact hB t (List.mem_append_right _ ht)
      · exact hA hne t (mem_endAfter top t ht)
      · exact hP t ht
  | br _ | brIf _ | brTable _ _ | exitLike | other =>
    all_goals
      simp only [specStep, hk, Option.some.injEq, Prod.mk.injEq] at h
      obtain ⟨rfl, rfl, rfl⟩ := h
      exact ⟨rfl, fun {out} _ _ hP => ⟨hP, fun hb => by simp [Kind.isBlockStyle] at hb⟩⟩

theorem mem_frAt {fr : List Fr} {f : Fr} (h : f ∈ fr) : ∃ k, k < fr.length ∧ frAt fr k = f := by
  obtain ⟨k, hk, rfl⟩ := List.getElem_of_mem (List.mem_reverse.mpr h)
  exact ⟨k, by simpa using hk, by unfold frAt; rw [List.getElem?_eq_getElem hk]; rfl⟩

theorem dropLast_eq_rev (fr : List Fr) : fr.dropLast = (fr.reverse.tail).reverse := by
  rw [List.tail_reverse, List.reverse_reverse]

theorem frAt_succ (fr : List Fr) (j : Nat) : frAt fr (j + 1) = (fr.reverse.tail[j]?).getD {} := by
  unfold frAt
  rw [List.getElem?_tail]

theorem frAt_mem_dropLast (fr : List Fr) (k : Nat) (h1 : 1 ≤ k) (h2 : k < fr.length) : frAt fr k ∈ fr.dropLast := by
  obtain ⟨j, rfl⟩ : ∃ j, k = j + 1 := ⟨k - 1, by omega⟩
  rw [frAt_succ, dropLast_eq_rev, List.mem_reverse]
  have hl : j < fr.reverse.tail.length := by simp; omega
  rw [List.getElem?_eq_getElem hl]
  exact List.getElem_mem _

theorem mem_dropLast_frAt (fr : List Fr) (f : Fr) (h : f ∈ fr.dropLast) : ∃ k, 1 ≤ k ∧ k < fr.length ∧ frAt fr k = f := by
  rw [dropLast_eq_rev, List.mem_reverse] at h
  obtain ⟨j, hj, rfl⟩ := List.getElem_of_mem h
  have hlen : fr.reverse.tail.length = fr.length - 1 := by simp
  refine ⟨j + 1, by omega, by omega, ?_⟩
  rw [frAt_succ, List.getElem?_eq_getElem hj]
  rfl

theorem Pend_of_mem {fr : List Fr} {f : Fr} {t : Tok} :
    (f ∈ fr ∧ (t ∈ f.ifExit ∨ t ∈ f.exitB)) ∨ (f ∈ fr.dropLast ∧ t ∈ f.afterA) → Pend fr t := by
  rintro (⟨hf, ht⟩ | ⟨hf, ht⟩)
  · obtain ⟨k, hk, rfl⟩ := mem_frAt hf
    exact .inl ⟨k, hk, ht⟩
  · obtain ⟨k, h1, hk, rfl⟩ := mem_dropLast_frAt fr f hf
    exact .inr ⟨k, h1, hk, .inl ht⟩

theorem specRun_cons_of_frames {last idx : Nat} {fr : List Fr} {xs : List Instr} {out : List Tok}
    (h : specRun last idx fr xs = some out) (hfr : fr ≠ []) : xs ≠ [] := by
  rintro rfl
  have : fr.isEmpty = false := by simpa using hfr
  simp [specRun, this] at h

theorem not_closed_early {fr : List Fr} {is : List Instr} (h : ¬ (fr.isEmpty && !is.isEmpty) = true) : fr ≠ [] ∨ is = [] := by
  cases fr with
  | cons _ _ => exact .inl (List.cons_ne_nil _ _)
  | nil => cases is with | nil => exact .inr rfl | cons _ _ => exact absurd rfl h

theorem specRun_cons {last idx : Nat} {fr : List Fr} {i : Instr} {is : List Instr} {out : List Tok}
    (h : specRun last idx fr (i :: is) = some out) :
    ∃ fr' b a rest, specStep fr i = some (fr', b, a) ∧ (fr' ≠ [] ∨ is = []) ∧ specRun last (idx + 1) fr' is = some rest
      ∧ out = i.before ++ b ++ (if idx ≥ last then [i.tok] else i.alt.getD [i.tok]) ++ (if idx ≥ last then [] else i.after ++ a) ++ rest := by
  rw [specRun] at h
  split at h
  · cases h
  rename_i fr' b a h1
  split at h
  · cases h
  rename_i hg
  split at h
  · cases h
  rename_i rest h2
  cases h
  exact ⟨fr', b, a, rest, h1, not_closed_early hg, h2, rfl⟩

theorem mem_emitted {t : Tok} {c : Prop} [Decidable c] {P B mid aft A rest : List Tok}
    (h : t ∈ P ∨ t ∈ B ∨ (¬ c ∧ t ∈ A) ∨ t ∈ rest) : t ∈ P ++ B ++ mid ++ (if c then [] else aft ++ A) ++ rest := by
  simp only [List.mem_append]
  rcases h with h | h | ⟨hc, h⟩ | h
  · exact .inl (.inl (.inl (.inl h)))
  · exact .inl (.inl (.inl (.inr h)))
  · rw [if_neg hc]; exact .inl (.inr (List.mem_append_right _ h))
  · exact .inr h

/-- every block-level probe the stack machine is given comes out: what waits in the frames (code behind an `end`: frames other than the
    function body's own) and, of the instructions still to come, all `before` code and on constructs all block-entry, block-exit and
    semantic-after code -/
theorem specRun_keeps (last : Nat) : ∀ (xs : List Instr) (idx : Nat) (fr : List Fr) (out : List Tok),
    specRun last idx fr xs = some out → idx + xs.length ≤ last + 1 → fr ≠ [] ∨ xs = [] →
    (∀ f ∈ fr, ∀ t, t ∈ f.ifExit ∨ t ∈ f.exitB → t ∈ out)
    ∧ (∀ f ∈ fr.dropLast, ∀ t ∈ f.afterA, t ∈ out)
    ∧ (∀ x ∈ xs, (∀ t ∈ x.before, t ∈ out)
        ∧ (x.kind.isBlockStyle = true → ∀ t, t ∈ x.blockEntry ∨ t ∈ x.blockExit ∨ t ∈ x.semAfter → t ∈ out)) := by
  suffices H : ∀ (xs : List Instr) (idx : Nat) (fr : List Fr) (out : List Tok),
      specRun last idx fr xs = some out → idx + xs.length ≤ last + 1 → fr ≠ [] ∨ xs = [] →
      (∀ t, Pend fr t → t ∈ out) ∧ (∀ x ∈ xs, (∀ t ∈ x.before, t ∈ out)
        ∧ (x.kind.isBlockStyle = true → ∀ t, t ∈ x.blockEntry ∨ t ∈ x.blockExit ∨ t ∈ x.semAfter → t ∈ out)) by
    intro xs idx fr out hs hl hfr
    obtain ⟨h1, h2⟩ := H xs idx fr out hs hl hfr
    exact ⟨fun f hf t ht => h1 t (Pend_of_mem (.inl ⟨hf, ht⟩)), fun f hf t ht => h1 t (Pend_of_mem (.inr ⟨hf, ht⟩)), h2⟩
  intro xs
  induction xs with
  | nil =>
    intro idx fr out hs _ _
    by_cases he : fr = []
    · subst he; exact ⟨fun t ht => (not_Pend_nil t ht).elim, by simp⟩
    · exact absurd rfl (specRun_cons_of_frames hs he)
  | cons x xs ih =>
    intro idx fr out hs hl hfr
    have hfr' : fr ≠ [] := hfr.resolve_right (by simp)
    obtain ⟨fr', B, A, outr, h1, hxs, h2, rfl⟩ := specRun_cons hs
    simp only [List.length_cons] at hl
    -- when a frame is left this is not the last instruction, so `A` is emitted
    have hnl : fr' ≠ [] → ¬ idx ≥ last := fun hne => by
      have := List.length_pos_iff.mpr (specRun_cons_of_frames h2 hne)
      omega
    obtain ⟨ihPend, ihRest⟩ := ih (idx + 1) fr' outr h2 (by omega) hxs
    -- the four arguments of `mem_emitted`: `before` code, `B`, `A` (not at the last instruction), the output of the rest
    obtain ⟨hP, hown⟩ := (specStep_keeps h1 hfr').2 (fun t ht => mem_emitted (.inr (.inl ht)))
      (fun hne t ht => mem_emitted (.inr (.inr (.inl ⟨hnl hne, ht⟩)))) (fun t ht => mem_emitted (.inr (.inr (.inr (ihPend t ht)))))
    refine ⟨hP, fun y hy => ?_⟩
    rcases List.mem_cons.mp hy with rfl | hy
    · exact ⟨fun t ht => mem_emitted (.inl ht), hown⟩
    · exact ⟨fun t ht => mem_emitted (.inr (.inr (.inr ((ihRest y hy).1 t ht)))),
        fun hb t ht => mem_emitted (.inr (.inr (.inr ((ihRest y hy).2 hb t ht))))⟩

end Orca.Lower
