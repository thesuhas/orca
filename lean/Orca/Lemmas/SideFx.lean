import Orca.Model.SideFx
/-!
M12, the side-effect report. What the parser built sits in front of every vector and carries no tag; no operation changes that
(`Inv`), so the report — a `filterMap` over the vectors — is the report of the additions alone. Each operation's effect on the report is
read off `step`; deletions rewrite one entry (`List.modify`), whose record goes. Probe lists are kept one per key (`KeysUnique`), which makes
`listAt` find the list a probe was filed in, hence its body inside the emitted code.
-/
namespace Orca.SideFx
open Orca.Edit (Sp)

/-- `t` reads the tag -/
def PrefNone {α : Type} (t : α → Option Tag) (n : Nat) (l : List α) : Prop :=
  n ≤ l.length ∧ ∀ i e, i < n → l[i]? = some e → t e = none

theorem PrefNone.append {α : Type} {t : α → Option Tag} {n : Nat} {l : List α} (h : PrefNone t n l) (x : List α) :
    PrefNone t n (l ++ x) := by
  refine ⟨by have := h.1; simp; omega, fun i e hi he => ?_⟩
  have : i < l.length := Nat.lt_of_lt_of_le hi h.1
  rw [List.getElem?_append_left this] at he
  exact h.2 i e hi he

/-- `List.modify` spelt with `set`, the way `markDel`, `markImpDel` and the deletion of an export are written -/
theorem modify_eq_set {α : Type} (f : α → α) (l : List α) (i : Nat) :
    l.modify i f = match l[i]? with | some e => l.set i (f e) | none => l := by
  split
  · rename_i e he
    obtain ⟨hi, rfl⟩ := List.getElem?_eq_some_iff.mp he
    rw [List.modify_eq_take_cons_drop hi, List.set_eq_take_append_cons_drop, if_pos hi]
  · rename_i he
    exact List.modify_eq_self (List.getElem?_eq_none_iff.mp he)

theorem markDel_eq (l : List Ent) (i : Nat) : markDel l i = l.modify i (fun e => { e with del := true }) := by
  rw [modify_eq_set]; unfold markDel; cases l[i]? <;> rfl

theorem markImpDel_eq (l : List Imp) (i : Nat) : markImpDel l i = l.modify i (fun e => { e with del := true }) := by
  rw [modify_eq_set]; unfold markImpDel; cases l[i]? <;> rfl

theorem delExport_eq (s : St) (pos : Nat) :
    (step s (.delExport pos)).exports = s.exports.modify pos (fun e => { e with del := true }) := by
  rw [modify_eq_set]; simp only [step]; cases s.exports[pos]? <;> rfl

theorem PrefNone.modify {α : Type} {t : α → Option Tag} {n : Nat} {l : List α} (h : PrefNone t n l) (f : α → α)
    (hf : ∀ e, t (f e) = t e) (i : Nat) : PrefNone t n (l.modify i f) := by
  refine ⟨by simpa using h.1, fun j x hj hx => ?_⟩
  rw [List.getElem?_modify] at hx
  obtain ⟨e, he, rfl⟩ := Option.map_eq_some_iff.mp hx
  split
  · rw [hf]; exact h.2 j e hj he
  · exact h.2 j e hj he

theorem filterMap_modify_none {α β : Type} (g : α → Option β) (f : α → α) (hf : ∀ e, g (f e) = none) {l : List α} {i : Nat}
    (hi : i < l.length) : (l.modify i f).filterMap g = (l.eraseIdx i).filterMap g := by
  obtain ⟨A, a, B, rfl, rfl, hm⟩ := List.exists_of_modify f hi
  rw [hm, List.eraseIdx_append_of_length_le (Nat.le_refl _)]
  simp [hf]

theorem filterMap_drop_of_prefNone {α β : Type} (f : α → Option β) (t : α → Option Tag) (hf : ∀ e, t e = none → f e = none)
    (n : Nat) (l : List α) (h : PrefNone t n l) : l.filterMap f = (l.drop n).filterMap f := by
  conv => lhs; rw [← List.take_append_drop n l]
  rw [List.filterMap_append, List.filterMap_eq_nil_iff.mpr, List.nil_append]
  intro e he
  obtain ⟨i, hi⟩ := List.getElem?_of_mem he
  have hlt : i < n := by have := (List.getElem?_eq_some_iff.mp hi).1; simp at this; omega
  rw [List.getElem?_take_of_lt hlt] at hi
  exact hf e (h.2 i e hlt hi)

/-- the invariant: the entries the parser built are still there, in front, and untagged -/
structure Inv (b : Base) (s : St) : Prop where
  types : PrefNone (fun (p : Nat × Option Tag) => p.2) b.types.length s.types
  imports : PrefNone Imp.tag (b.nif + b.nig + b.nim) s.imports
  funcs : PrefNone Ent.tag (b.nif + b.nlf) s.funcs
  globals : PrefNone Ent.tag (b.nig + b.nlg) s.globals
  mems : PrefNone Ent.tag (b.nim + b.nlm) s.mems
  exports : PrefNone Exp.tag b.exports.length s.exports
  datas : PrefNone Dat.tag b.ndata s.datas

theorem prefNone_all {α : Type} {t : α → Option Tag} {l : List α} (h : ∀ e ∈ l, t e = none) {n : Nat} (hn : n = l.length) :
    PrefNone t n l :=
  ⟨Nat.le_of_eq hn, fun _ e _ he => h e (List.mem_of_getElem? he)⟩

theorem untagged_map {γ α : Type} {t : α → Option Tag} {f : γ → α} (hf : ∀ c, t (f c) = none) (l : List γ) :
    ∀ e ∈ l.map f, t e = none :=
  fun e he => by obtain ⟨c, _, rfl⟩ := List.mem_map.mp he; exact hf c

theorem mkEnts_tag (a u n : Nat) (imp : Bool) (ib : Nat) : ∀ e ∈ mkEnts a u n imp ib, e.tag = none :=
  untagged_map (fun _ => rfl) _

theorem mkEnts_length (a u n : Nat) (imp : Bool) (ib : Nat) : (mkEnts a u n imp ib).length = n := by
  simp [mkEnts]

theorem mkImps_tag (u n : Nat) (k : Sp) : ∀ e ∈ mkImps u n k, e.tag = none :=
  untagged_map (fun _ => rfl) _

theorem inv_init (b : Base) : Inv b (init b) := by
  -- each of the three entity vectors: imported entries, then local ones
  have ents : ∀ a u n i a' u' n', PrefNone Ent.tag (n + n') (mkEnts a u n true i ++ mkEnts a' u' n' false 0) :=
    fun a u n i a' u' n' => prefNone_all
      (fun e he => (List.mem_append.mp he).elim (mkEnts_tag _ _ _ _ _ e) (mkEnts_tag _ _ _ _ _ e)) (by simp [mkEnts_length])
  exact ⟨prefNone_all (untagged_map (fun _ => rfl) b.types) (List.length_map _).symm,
    prefNone_all (fun e he => (List.mem_append.mp he).elim
      (fun he => (List.mem_append.mp he).elim (mkImps_tag _ _ _ e) (mkImps_tag _ _ _ e)) (mkImps_tag _ _ _ e))
      (by simp [mkImps, Nat.add_assoc]),
    ents .., ents .., ents ..,
    prefNone_all (untagged_map (fun _ => rfl) b.exports.zipIdx) (by simp),
    prefNone_all (untagged_map (fun _ => rfl) (List.range b.ndata)) (by simp)⟩

theorem prefNone_addType {n : Nat} {ts : List (Nat × Option Tag)} (h : PrefNone (fun (p : Nat × Option Tag) => p.2) n ts)
    (sig : Nat) (tag : Option Tag) : PrefNone (fun (p : Nat × Option Tag) => p.2) n (addType ts sig tag) := by
  unfold addType
  split
  · exact h
  · exact h.append _

theorem prefNone_delEnt {n k : Nat} {v : List Ent} {imps : List Imp} (hv : PrefNone Ent.tag n v) (hi : PrefNone Imp.tag k imps)
    (id : Nat) : PrefNone Ent.tag n (delEnt v imps id).1 ∧ PrefNone Imp.tag k (delEnt v imps id).2 := by
  unfold delEnt
  split
  · rw [markDel_eq]
    refine ⟨hv.modify _ (by intro; rfl) id, ?_⟩
    dsimp only
    split
    · rw [markImpDel_eq]; exact hi.modify _ (by intro; rfl) _
    · exact hi
  · exact ⟨hv, hi⟩

theorem inv_step (b : Base) (s : St) (op : Op) (h : Inv b s) : Inv b (step s op) := by
  cases op with
  | addType sig tag => exact { h with types := prefNone_addType h.types sig tag }
  | addImport k uid tag =>
    cases k with
    | F => exact { h with imports := h.imports.append _, funcs := h.funcs.append _ }
    | G => exact { h with imports := h.imports.append _, globals := h.globals.append _ }
    | M => exact { h with imports := h.imports.append _, mems := h.mems.append _ }
  | addFunc uid sig tag body => exact { h with types := prefNone_addType h.types sig _, funcs := h.funcs.append _ }
  | addGlobal uid tag get => exact { h with globals := h.globals.append _ }
  | addMem uid tag => exact { h with mems := h.mems.append _ }
  | addExport site idx tag => exact { h with exports := h.exports.append _ }
  | addData p bts tag => exact { h with datas := h.datas.append _ }
  | delFunc id =>
    have := prefNone_delEnt h.funcs h.imports id
    exact { h with funcs := this.1, imports := this.2 }
  | delGlobal id =>
    have := prefNone_delEnt h.globals h.imports id
    exact { h with globals := this.1, imports := this.2 }
  | delExport pos => exact { h with exports := by rw [delExport_eq]; exact h.exports.modify _ (by intro; rfl) pos }
  | probe fid key tag body => exact { h with }

theorem run_induct {P : St → Prop} (h : ∀ s op, P s → P (step s op)) (ops : List Op) : ∀ s, P s → P (run s ops) := by
  induction ops with
  | nil => intro s hs; exact hs
  | cons op ops ih => intro s hs; exact ih _ (h s op hs)

theorem inv_run (b : Base) (ops : List Op) : ∀ s, Inv b s → Inv b (run s ops) :=
  run_induct (inv_step b) ops

/-- the state without what the parser built -/
def additions (b : Base) (s : St) : St :=
  { s with types := s.types.drop b.types.length, imports := s.imports.drop (b.nif + b.nig + b.nim),
           funcs := s.funcs.drop (b.nif + b.nlf), globals := s.globals.drop (b.nig + b.nlg),
           mems := s.mems.drop (b.nim + b.nlm), exports := s.exports.drop b.exports.length, datas := s.datas.drop b.ndata }

theorem pullWith_additions (m : Maps) (b : Base) (s : St) (h : Inv b s) : pullWith m s = pullWith m (additions b s) := by
  have t1 := filterMap_drop_of_prefNone typeRec? (fun (p : Nat × Option Tag) => p.2)
    (by intro e he; simp [typeRec?, he]) _ _ h.types
  have t2 := filterMap_drop_of_prefNone importRec? Imp.tag (by intro e he; simp [importRec?, he]) _ _ h.imports
  have t3 := filterMap_drop_of_prefNone exportRec? Exp.tag (by intro e he; simp [exportRec?, he]) _ _ h.exports
  have t4 := filterMap_drop_of_prefNone memRec? Ent.tag (by intro e he; simp [memRec?, he]) _ _ h.mems
  have t5 := filterMap_drop_of_prefNone dataRec? Dat.tag (by intro e he; simp [dataRec?, he]) _ _ h.datas
  have t6 := filterMap_drop_of_prefNone (globalRec? m) Ent.tag (by intro e he; simp [globalRec?, he]) _ _ h.globals
  have t7 := filterMap_drop_of_prefNone funcRec? Ent.tag (by intro e he; simp [funcRec?, he]) _ _ h.funcs
  simp only [pullWith, typeRecs, importRecs, exportRecs, memRecs, dataRecs, globalRecs, funcRecs, probeRecs, additions]
  rw [t1, t2, t3, t4, t5, t6, t7]

theorem filterMap_concat {α β : Type} (g : α → Option β) (l : List α) (a : α) :
    (l ++ [a]).filterMap g = l.filterMap g ++ (g a).toList := by
  rw [List.filterMap_append]; cases h : g a <;> simp [h]

theorem importRecs_addImport (s : St) (k : Sp) (uid : Nat) (tag : Tag) :
    importRecs (step s (.addImport k uid tag)) = importRecs s ++ [.import uid k tag] := by
  cases k <;> exact filterMap_concat importRec? s.imports _

theorem funcRecs_addFunc (s : St) (uid sig : Nat) (tag : Tag) (body : List RefTok) :
    funcRecs (step s (.addFunc uid sig tag body))
      = funcRecs s ++ [.func uid s.funcs.length sig (body.flatMap rawTok) tag] :=
  filterMap_concat funcRec? s.funcs _

theorem globalRecs_addGlobal (m : Maps) (s : St) (uid : Nat) (tag : Tag) (get : Option RefTok) :
    globalRecs m (step s (.addGlobal uid tag get))
      = globalRecs m s ++ [.global uid s.globals.length (get.map (emitTok m)) tag] :=
  filterMap_concat (globalRec? m) s.globals _

theorem memRecs_addMem (s : St) (uid : Nat) (tag : Tag) :
    memRecs (step s (.addMem uid tag)) = memRecs s ++ [.memory uid s.mems.length tag] :=
  filterMap_concat memRec? s.mems _

theorem exportRecs_addExport (s : St) (site idx : Nat) (tag : Option Tag) :
    exportRecs (step s (.addExport site idx tag))
      = exportRecs s ++ (tag.map (Rec.export s.exports.length idx)).toList :=
  filterMap_concat exportRec? s.exports _

theorem dataRecs_addData (s : St) (p : Bool) (bts : String) (tag : Option Tag) :
    dataRecs (step s (.addData p bts tag)) = dataRecs s ++ (tag.map (Rec.data p bts)).toList :=
  filterMap_concat dataRec? s.datas _

theorem typeRecs_addType (ts : List (Nat × Option Tag)) (sig : Nat) (tag : Option Tag) :
    (addType ts sig tag).filterMap typeRec?
      = ts.filterMap typeRec? ++ (if ts.any (·.1 == sig) then [] else (tag.map (Rec.type sig)).toList) := by
  unfold addType
  split
  · exact (List.append_nil _).symm
  · exact filterMap_concat typeRec? ts _

/-- the entry an import appends to the vector of its kind is an imported one: no record -/
theorem funcRecs_addImport (s : St) (k : Sp) (uid : Nat) (tag : Tag) :
    funcRecs (step s (.addImport k uid tag)) = funcRecs s := by
  cases k
  · exact (filterMap_concat funcRec? s.funcs _).trans (List.append_nil _)
  · rfl
  · rfl

theorem globalRecs_addImport (m : Maps) (s : St) (k : Sp) (uid : Nat) (tag : Tag) :
    globalRecs m (step s (.addImport k uid tag)) = globalRecs m s := by
  cases k
  · rfl
  · exact (filterMap_concat (globalRec? m) s.globals _).trans (List.append_nil _)
  · rfl

theorem memRecs_addImport (s : St) (k : Sp) (uid : Nat) (tag : Tag) :
    memRecs (step s (.addImport k uid tag)) = memRecs s := by
  cases k
  · rfl
  · rfl
  · exact (filterMap_concat memRec? s.mems _).trans (List.append_nil _)

theorem funcRecs_delFunc (s : St) (id : Nat) (hi : id < s.funcs.length) :
    funcRecs (step s (.delFunc id)) = (s.funcs.eraseIdx id).filterMap funcRec? := by
  simp only [step, funcRecs, delEnt, List.getElem?_eq_getElem hi, markDel_eq]
  exact filterMap_modify_none _ _ (fun _ => by simp [funcRec?]) hi

theorem globalRecs_delGlobal (m : Maps) (s : St) (id : Nat) (hi : id < s.globals.length) :
    globalRecs m (step s (.delGlobal id)) = (s.globals.eraseIdx id).filterMap (globalRec? m) := by
  simp only [step, globalRecs, delEnt, List.getElem?_eq_getElem hi, markDel_eq]
  exact filterMap_modify_none _ _ (fun _ => by simp [globalRec?]) hi

theorem importRecs_delFunc (s : St) (id : Nat) (hi : id < s.funcs.length) (hp : s.funcs[id].impPos < s.imports.length) :
    importRecs (step s (.delFunc id))
      = if s.funcs[id].imp then (s.imports.eraseIdx s.funcs[id].impPos).filterMap importRec? else importRecs s := by
  simp only [step, importRecs, delEnt, List.getElem?_eq_getElem hi]
  split
  · rw [markImpDel_eq]; exact filterMap_modify_none _ _ (fun _ => by simp [importRec?]) hp
  · rfl

theorem exportRecs_delExport (s : St) (pos : Nat) (hi : pos < s.exports.length) :
    exportRecs (step s (.delExport pos)) = (s.exports.eraseIdx pos).filterMap exportRec? := by
  rw [exportRecs, delExport_eq]
  exact filterMap_modify_none _ _ (fun _ => by simp [exportRec?]) hi

def SameKey (a b : Probe) : Prop := a.fid = b.fid ∧ a.key = b.key

def KeysUnique : List Probe → Prop
  | [] => True
  | p :: ps => (∀ q ∈ ps, ¬ SameKey p q) ∧ KeysUnique ps

theorem mem_addProbe {ps : List Probe} {p q : Probe} (h : q ∈ addProbe ps p) :
    q ∈ ps ∨ SameKey q p := by
  induction ps with
  | nil => simp [addProbe] at h; subst h; exact .inr ⟨rfl, rfl⟩
  | cons a ps ih =>
    simp only [addProbe] at h
    split at h
    · rename_i hk
      rcases List.mem_cons.mp h with h | h
      · subst h; exact .inr hk
      · exact .inl (List.mem_cons_of_mem _ h)
    · rcases List.mem_cons.mp h with h | h
      · subst h; exact .inl (List.mem_cons_self ..)
      · rcases ih h with h | h
        · exact .inl (List.mem_cons_of_mem _ h)
        · exact .inr h

theorem keysUnique_addProbe {ps : List Probe} (h : KeysUnique ps) (p : Probe) : KeysUnique (addProbe ps p) := by
  induction ps with
  | nil => simp [addProbe, KeysUnique]
  | cons a ps ih =>
    simp only [addProbe]
    split
    · -- the head keeps its key
      exact ⟨fun q hq hs => h.1 q hq hs, h.2⟩
    · rename_i hk
      refine ⟨fun q hq hs => ?_, ih h.2⟩
      rcases mem_addProbe hq with hq | hq
      · exact h.1 q hq hs
      · exact hk ⟨hs.1.trans hq.1, hs.2.trans hq.2⟩

theorem keysUnique_step (s : St) (op : Op) (h : KeysUnique s.probes) : KeysUnique (step s op).probes := by
  cases op with
  | probe fid key tag body => exact keysUnique_addProbe h _
  | addImport k uid tag => cases k <;> exact h
  | _ => exact h

theorem keysUnique_history (b : Base) (ops : List Op) : KeysUnique (run (init b) ops).probes :=
  run_induct (P := fun s => KeysUnique s.probes) keysUnique_step ops _ True.intro  -- `(init b).probes` is `[]`

theorem listAt_of_mem {ps : List Probe} (hu : KeysUnique ps) {p : Probe} (hp : p ∈ ps) {idx mode : Nat}
    (hk : p.key = .loc idx mode) : listAt ps p.fid idx mode = p.body := by
  induction ps with
  | nil => cases hp
  | cons a ps ih =>
    unfold listAt
    rw [List.find?_cons]
    by_cases ha : a.fid = p.fid ∧ a.key = .loc idx mode
    · simp only [ha, and_self, decide_true]
      rcases List.mem_cons.mp hp with rfl | hp'
      · rfl
      · exact absurd ⟨ha.1, ha.2.trans hk.symm⟩ (hu.1 p hp')
    · simp only [ha, decide_false]
      rcases List.mem_cons.mp hp with rfl | hp'
      · exact absurd ⟨rfl, hk⟩ ha
      · exact ih hu.2 hp'

theorem hasAlt_of_mem {ps : List Probe} {p : Probe} (hp : p ∈ ps) {idx : Nat} (hk : p.key = .loc idx 2) :
    hasAlt ps p.fid idx = true := by
  unfold hasAlt
  rw [List.any_eq_true]
  exact ⟨p, hp, by simp [hk]⟩

theorem insertProbe_perm (p : Probe) (l : List Probe) : (insertProbe p l).Perm (p :: l) := by
  induction l with
  | nil => exact List.Perm.refl _
  | cons q qs ih =>
    simp only [insertProbe]
    split
    · exact List.Perm.refl _
    · exact (List.Perm.cons q ih).trans (List.Perm.swap p q qs)

theorem sortProbes_perm (l : List Probe) : (sortProbes l).Perm l := by
  induction l with
  | nil => exact List.Perm.refl _
  | cons p ps ih =>
    show (insertProbe p (sortProbes ps)).Perm (p :: ps)
    exact (insertProbe_perm p _).trans (List.Perm.cons p ih)

theorem probeRecs_perm (m : Maps) (s : St) :
    (probeRecs m s).Perm ((s.probes.filter reported).map (probeRec m)) := by
  unfold probeRecs
  exact ((sortProbes_perm s.probes).filter reported).map (probeRec m)

theorem emitInstr_infix (m : Maps) (ps : List Probe) (fid : Nat) (ops : List (List Tok)) :
    ∀ (k j : Nat) (hj : j < ops.length), emitInstr m ps fid (k + j) ops[j] <:+: emitFrom m ps fid k ops := by
  induction ops with
  | nil => intro k j hj; simp at hj
  | cons op ops ih =>
    intro k j hj
    cases j with
    | zero =>
      simp only [emitFrom, Nat.add_zero, List.getElem_cons_zero]
      exact ⟨[], emitFrom m ps fid (k + 1) ops, by simp⟩
    | succ j =>
      simp only [emitFrom, List.getElem_cons_succ]
      have := ih (k + 1) j (by simpa using hj)
      rw [show k + 1 + j = k + (j + 1) by omega] at this
      obtain ⟨a, c, h⟩ := this
      exact ⟨emitInstr m ps fid k op ++ a, c, by rw [← h]; simp [List.append_assoc]⟩

theorem body_infix_emitInstr (m : Maps) {ps : List Probe} (hu : KeysUnique ps) {p : Probe} (hp : p ∈ ps) {idx mode : Nat}
    (hk : p.key = .loc idx mode) (hm : mode ≤ 2) (op : List Tok) :
    emitBody m p.body <:+: emitInstr m ps p.fid idx op := by
  unfold emitInstr
  have h012 : mode = 0 ∨ mode = 1 ∨ mode = 2 := by omega
  rcases h012 with rfl | rfl | rfl
  · rw [listAt_of_mem hu hp hk]
    exact List.infix_append_of_infix_left List.infix_append_left
  · rw [listAt_of_mem hu hp hk]
    exact List.infix_append_right
  · rw [hasAlt_of_mem hp hk, if_pos rfl, listAt_of_mem hu hp hk]
    exact List.infix_append _ _ _

theorem body_infix_emitFunc (m : Maps) {ps : List Probe} (hu : KeysUnique ps) {p : Probe} (hp : p ∈ ps) {idx mode : Nat}
    (hk : p.key = .loc idx mode) (hm : mode ≤ 2) (ops : List (List Tok)) (hi : idx < ops.length) :
    emitBody m p.body <:+: emitFunc m ps p.fid ops := by
  have h1 := body_infix_emitInstr m hu hp hk hm ops[idx]
  have h2 := emitInstr_infix m ps p.fid ops 0 idx hi
  rw [Nat.zero_add] at h2
  exact h1.trans h2

end Orca.SideFx
