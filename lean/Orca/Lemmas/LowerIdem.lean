import Orca.Lemmas.Resolver
/-!
Whatever the body and the plan — no well-nestedness assumed —, one iteration of the resolver touches the body at the current index
only, and leaves that instruction without special lists; hence after `resolve_special_instrumentation` no special list is left anywhere
in the function, a second resolution changes nothing, and encoding again gives the same code and adds no further local (the lowering
half of C05).
-/
namespace Orca.Lower

/-- `b'` is `b` with the instruction at `idx` changed, and `R` relates the old and the new instruction -/
def BodyOp (b b' : List Instr) (idx : Nat) (R : Instr → Instr → Prop) : Prop :=
  ∃ G : Instr → Instr, b' = modifyAt b idx G ∧ ∀ x, R x (G x)

theorem BodyOp.refl (b : List Instr) (idx : Nat) (R : Instr → Instr → Prop) (hR : ∀ x, R x x) : BodyOp b b idx R :=
  ⟨id, (modifyAt_id b idx).symm, hR⟩

theorem BodyOp.trans {b1 b2 b3 : List Instr} {idx : Nat} {R1 R2 R3 : Instr → Instr → Prop}
    (h1 : BodyOp b1 b2 idx R1) (h2 : BodyOp b2 b3 idx R2) (hR : ∀ x y z, R1 x y → R2 y z → R3 x z) : BodyOp b1 b3 idx R3 := by
  obtain ⟨G1, e1, r1⟩ := h1
  obtain ⟨G2, e2, r2⟩ := h2
  exact ⟨G2 ∘ G1, by rw [e2, e1, modifyAt_modifyAt], fun x => hR x (G1 x) (G2 (G1 x)) (r1 x) (r2 (G1 x))⟩

theorem BodyOp.mono {b b' : List Instr} {idx : Nat} {R R' : Instr → Instr → Prop} (h : BodyOp b b' idx R) (hR : ∀ x y, R x y → R' x y) :
    BodyOp b b' idx R' := by
  obtain ⟨G, e, r⟩ := h
  exact ⟨G, e, fun x => hR x (G x) (r x)⟩

theorem BodyOp.modify (b : List Instr) (idx : Nat) (g : Instr → Instr) (R : Instr → Instr → Prop) (hR : ∀ x, R x (g x)) :
    BodyOp b (modifyAt b idx g) idx R := ⟨g, rfl, hR⟩

/-- `y` is `x` with the block alternate kept and each special list kept or, where its flag is set, emptied -/
def Emptied (m e x : Bool) (a b : Instr) : Prop :=
  b.semAfter = (if m then [] else a.semAfter) ∧ b.blockEntry = (if e then [] else a.blockEntry)
    ∧ b.blockExit = (if x then [] else a.blockExit) ∧ b.blockAlt = a.blockAlt

abbrev KeepSp : Instr → Instr → Prop := Emptied false false false

theorem Emptied.refl (a : Instr) : KeepSp a a := ⟨rfl, rfl, rfl, rfl⟩

theorem Emptied.trans {m e x m' e' x' : Bool} {a b c : Instr} (h1 : Emptied m e x a b) (h2 : Emptied m' e' x' b c) :
    Emptied (m || m') (e || e') (x || x') a c := by
  obtain ⟨a1, a2, a3, a4⟩ := h1
  obtain ⟨b1, b2, b3, b4⟩ := h2
  refine ⟨?_, ?_, ?_, b4.trans a4⟩
  · rw [b1, a1]; cases m <;> cases m' <;> rfl
  · rw [b2, a2]; cases e <;> cases e' <;> rfl
  · rw [b3, a3]; cases x <;> cases x' <;> rfl

theorem BodyOp.then {b1 b2 b3 : List Instr} {idx : Nat} {m e x m' e' x' : Bool} (h1 : BodyOp b1 b2 idx (Emptied m e x))
    (h2 : BodyOp b2 b3 idx (Emptied m' e' x')) : BodyOp b1 b3 idx (Emptied (m || m') (e || e') (x || x')) :=
  BodyOp.trans h1 h2 fun _ _ _ => Emptied.trans

theorem keepSp_refl (b : List Instr) (idx : Nat) : BodyOp b b idx KeepSp := BodyOp.refl _ _ _ Emptied.refl

theorem addBefore_op (b : List Instr) (idx : Nat) (ts : List Tok) : BodyOp b (addBefore b idx ts) idx KeepSp :=
  BodyOp.modify b idx _ KeepSp (fun _ => ⟨rfl, rfl, rfl, rfl⟩)

theorem addAfter_op (b : List Instr) (idx : Nat) (ts : List Tok) : BodyOp b (addAfter b idx ts) idx KeepSp :=
  BodyOp.modify b idx _ KeepSp (fun _ => ⟨rfl, rfl, rfl, rfl⟩)

theorem markAt_op (b : List Instr) (idx : Nat) : BodyOp b (markAt b idx) idx (fun _ y => Cleared y) := by
  unfold markAt discardSpecial setEmptyAlt
  rw [modifyAt_modifyAt]
  exact BodyOp.modify b idx _ _ (fun _ => ⟨rfl, rfl, rfl, rfl⟩)

theorem planBlockAlt_op (b : List Instr) (idx : Nat) (alt : List Tok) : BodyOp b (planBlockAlt b idx alt) idx (fun _ y => Cleared y) := by
  unfold planBlockAlt
  split
  · exact markAt_op b idx
  · unfold discardSpecial
    rw [modifyAt_modifyAt]
    exact BodyOp.modify b idx _ _ (fun _ => ⟨rfl, rfl, rfl, rfl⟩)

theorem stageEntry_op (s : RState) (idx : Nat) (ins : Instr) :
    BodyOp s.body (stageEntry s idx ins).body idx (Emptied false (!ins.blockEntry.isEmpty) false) := by
  cases hE : ins.blockEntry.isEmpty with
  | true => rw [stageEntry_nil s idx (List.isEmpty_iff.mp hE)]; exact keepSp_refl _ _
  | false =>
    unfold stageEntry
    simp only [hE, Bool.false_eq_true, if_false]
    split
    · unfold addAfter
      rw [modifyAt_modifyAt]
      exact BodyOp.modify _ _ _ _ (fun x => ⟨rfl, rfl, rfl, rfl⟩)
    · exact BodyOp.modify _ _ _ _ (fun x => ⟨rfl, rfl, rfl, rfl⟩)

theorem stageExit_op (s : RState) (idx : Nat) (ins : Instr) :
    BodyOp s.body (stageExit s idx ins).body idx (Emptied false false (!ins.blockExit.isEmpty)) := by
  cases hX : ins.blockExit.isEmpty with
  | true => rw [stageExit_nil s idx (List.isEmpty_iff.mp hX)]; exact keepSp_refl _ _
  | false =>
    unfold stageExit
    simp only [hX, Bool.false_eq_true, if_false]
    -- whatever the kind, only tables change before the list is emptied
    have key : ∀ s' : RState, s'.body = s.body →
        BodyOp s.body (modifyAt s'.body idx (fun i => { i with blockExit := [] })) idx (Emptied false false true) := by
      intro s' hb
      rw [hb]
      exact BodyOp.modify _ _ _ _ (fun x => ⟨rfl, rfl, rfl, rfl⟩)
    cases ins.kind <;> exact key _ rfl

theorem stageSemG_op (s : RState) (idx : Nat) (ins : Instr) :
    BodyOp s.body (stageSemG s idx ins).body idx (Emptied (!ins.semAfter.isEmpty) false false) := by
  cases hS : ins.semAfter.isEmpty with
  | true => rw [stageSemG_nil s idx (List.isEmpty_iff.mp hS)]; exact keepSp_refl _ _
  | false =>
    unfold stageSemG
    simp only [hS, Bool.false_eq_true, if_false]
    -- whatever the kind, the body is the old one, possibly with flag code around the instruction, then the list is emptied
    have key : ∀ s' : RState, BodyOp s.body s'.body idx KeepSp →
        BodyOp s.body (modifyAt s'.body idx (fun i => { i with semAfter := [] })) idx (Emptied true false false) :=
      fun s' h => h.then (BodyOp.modify _ _ _ (Emptied true false false) (fun x => ⟨rfl, rfl, rfl, rfl⟩))
    have hflag : ∀ (inl : List Tok), BodyOp s.body
        (addAfter (addBefore s.body idx [tConst 1, tLocalSet s.nlocals]) idx ([tConst 0, tLocalSet s.nlocals] ++ inl)) idx KeepSp :=
      fun inl => (addBefore_op _ _ _).then (addAfter_op _ _ _)
    cases hk : ins.kind with
    | block | loop | if_ | else_ | end_ | exitLike | other => exact key _ (keepSp_refl _ _)
    | br d => exact key _ (hflag _)
    | brIf d => exact key _ (hflag _)
    | brTable ts d =>
      refine key _ ?_
      -- parking touches the table only
      show BodyOp s.body (ts.foldl (parkS (ins.semAfter, s.nlocals))
        { s with body := addAfter (addBefore s.body idx [tConst 1, tLocalSet s.nlocals]) idx ([tConst 0, tLocalSet s.nlocals] ++ []),
                 nlocals := s.nlocals + 1, added := s.added + 1 }).body idx KeepSp
      rw [foldl_park]
      exact hflag _

theorem planSpecial_op (s : RState) (idx : Nat) (ins : Instr) :
    BodyOp s.body (planSpecial s idx ins).body idx
      (Emptied (!ins.semAfter.isEmpty) (!ins.blockEntry.isEmpty) (!ins.blockExit.isEmpty)) := by
  rw [planSpecial_stages]
  refine (((stageEntry_op s idx ins).then (stageExit_op _ idx ins)).then (stageSemG_op _ idx ins)).mono fun x y h => ?_
  simp only [Bool.or_false, Bool.false_or] at h
  exact h

def SameSp (ins x : Instr) : Prop :=
  x.semAfter = ins.semAfter ∧ x.blockEntry = ins.blockEntry ∧ x.blockExit = ins.blockExit ∧ x.blockAlt = ins.blockAlt

def Resolves (ins x y : Instr) : Prop := SameSp ins x → Cleared y

theorem emptied_self (l : List Tok) : (if !l.isEmpty then [] else l) = [] := by
  cases l <;> rfl

theorem resolves_planSpecial (b : List Instr) (s' : RState) (idx : Nat) (ins : Instr) (h : BodyOp b s'.body idx KeepSp) (hba : ins.blockAlt = none) :
    BodyOp b (planSpecial s' idx ins).body idx (Resolves ins) := by
  refine (h.then (planSpecial_op s' idx ins)).mono fun x y ⟨h1, h2, h3, h4⟩ ⟨s1, s2, s3, s4⟩ => ?_
  -- the stages empty the lists of the copy `ins`, and the instruction in the body still holds those
  exact ⟨by rw [h1, s1]; exact emptied_self _, by rw [h2, s2]; exact emptied_self _, by rw [h3, s3]; exact emptied_self _,
    by rw [h4, s4, hba]⟩

theorem resolves_of_cleared {b b' b'' : List Instr} {idx : Nat} (ins : Instr) (h : BodyOp b b' idx KeepSp)
    (h2 : BodyOp b' b'' idx (fun _ y => Cleared y)) : BodyOp b b'' idx (Resolves ins) :=
  BodyOp.trans h h2 (fun _ _ _ _ c _ => c)

theorem flushE_keep (s : RState) (idx k : Nat) : BodyOp s.body (flushE s idx k).body idx KeepSp := by
  unfold flushE
  split
  · exact addBefore_op _ _ _
  · exact keepSp_refl _ _

theorem endE_keep (s : RState) (idx n : Nat) : BodyOp s.body (endE s idx n).body idx KeepSp := by
  unfold endE
  simp only []
  have h0 := flushE_keep s idx n
  split <;> split
  · exact (h0.then (addBefore_op _ _ _)).then (addAfter_op _ _ _)
  · exact h0.then (addAfter_op _ _ _)
  · exact h0.then (addBefore_op _ _ _)
  · exact h0

theorem pass_keep (s : RState) (idx : Nat) (k : Kind) : BodyOp s.body (pass s idx k).body idx KeepSp := by
  unfold pass
  split
  · exact keepSp_refl _ _
  · exact keepSp_refl _ _
  · exact keepSp_refl _ _
  · exact flushE_keep s idx _
  · split
    · exact keepSp_refl _ _
    · exact endE_keep { s with stack := s.stack.dropLast } idx _
  · exact keepSp_refl _ _

/-- the kinds the API accepts block alternates on -/
def AltScope (i : Instr) : Prop := i.blockAlt.isSome = true → i.kind.isBlockStyle = true

theorem rpre_op (last : Nat) (s : RState) (idx : Nat) (ins : Instr) : BodyOp s.body (rpre last s idx ins).body idx KeepSp := by
  have h1 : BodyOp s.body (rpre1 s idx).body idx KeepSp := by
    unfold rpre1
    split
    · rename_i h
      rw [beq_iff_eq.mp (Bool.and_eq_true_iff.mp h).2]
      exact addBefore_op _ _ _
    · exact keepSp_refl _ _
  have h2 : ∀ s1 : RState, BodyOp s1.body (rpre2 last s1 idx ins).body idx KeepSp := by
    intro s1
    unfold rpre2
    split
    · exact keepSp_refl _ _
    · split
      · exact addBefore_op _ _ _
      · split
        · exact addBefore_op _ _ _
        · exact keepSp_refl _ _
  rw [rpre_eq]
  exact h1.then (h2 _)

theorem rcore_op (b : List Instr) (s : RState) (idx : Nat) (ins : Instr) (h : BodyOp b s.body idx KeepSp)
    (hsc : ins.blockAlt.isSome = true → ins.kind.isBlockStyle = true) : BodyOp b (rcore s idx ins).body idx (Resolves ins) := by
  have hp : BodyOp b (pass s idx ins.kind).body idx KeepSp := h.then (pass_keep s idx _)
  cases hd : s.deleteBlock with
  | none =>
    cases hba : ins.blockAlt with
    | none => rw [rcore_plain s idx ins hba hd]; exact resolves_planSpecial _ _ _ _ hp hba
    | some alt =>
      rw [rcore_start s idx ins alt hba hd (blockStyle_cases (hsc (by rw [hba]; rfl)))]
      exact resolves_of_cleared ins hp (planBlockAlt_op _ idx alt)
  | some d =>
    by_cases hk : ins.kind = .end_
    · have hba : ins.blockAlt = none := by
        cases hba : ins.blockAlt with
        | none => rfl
        | some a => have := hsc (by rw [hba]; rfl); rw [hk] at this; cases this
      cases hl : s.stack.getLast? with
      | none => rw [rcore_end_empty s idx ins hk hl]; exact resolves_planSpecial _ _ _ _ h hba
      | some n =>
        rw [rcore_removing_end s idx ins d n hd hk hl]
        split
        · split
          · -- the state is written out: left to unification it is the dearest step of the proof
            exact resolves_planSpecial _ _ _ _
              (h.then (endE_keep { s with stack := s.stack.dropLast, deleteBlock := none, retainEnd := true } idx n)) hba
          · exact resolves_of_cleared ins h (markAt_op _ idx)
        · exact resolves_of_cleared ins h (markAt_op _ idx)
    · rw [rcore_removing s idx ins d hd hk]
      exact resolves_of_cleared ins hp (markAt_op _ idx)

theorem rstep_op (last : Nat) (s : RState) (idx : Nat) (ins : Instr) (hsc : ins.blockAlt.isSome = true → ins.kind.isBlockStyle = true) :
    BodyOp s.body (rstep last s idx ins).body idx (Resolves ins) := by
  rw [rstep_eq]
  exact rcore_op _ _ idx ins (rpre_op last s idx ins) hsc

/-- An iteration changes the body at its own index only, so what the loop has not reached yet is still what its copy holds. -/
theorem rloop_clears (last : Nat) : ∀ (xs : List Instr) (s : RState) (A B : List Instr), (∀ x ∈ xs, AltScope x) → s.body = A ++ xs ++ B →
    ∃ ys, (rloop last s A.length xs).body = A ++ ys ++ B ∧ ys.length = xs.length ∧ ∀ y ∈ ys, Cleared y := by
  intro xs
  induction xs with
  | nil => intro s A B _ hb; exact ⟨[], hb, rfl, fun _ h => nomatch h⟩
  | cons x xs ih =>
    intro s A B hsc hb
    obtain ⟨G, e, r⟩ := rstep_op last s A.length x (hsc x (List.mem_cons_self ..))
    have hb' : (rstep last s A.length x).body = (A ++ [G x]) ++ xs ++ B := by
      rw [e, hb, List.append_assoc, List.cons_append, modifyAt_mid]; simp
    obtain ⟨ys, h1, h2, h3⟩ := ih (rstep last s A.length x) (A ++ [G x]) B (fun y hy => hsc y (List.mem_cons_of_mem _ hy)) hb'
    rw [List.length_append, List.length_singleton] at h1
    refine ⟨G x :: ys, by rw [rloop, h1]; simp, by simp [h2], fun y hy => ?_⟩
    rcases List.mem_cons.mp hy with rfl | hy
    · exact r x ⟨rfl, rfl, rfl, rfl⟩
    · exact h3 y hy

/-- **After `resolve_special_instrumentation` nothing special is left**: every instruction of the function is without semantic-after,
    block-entry, block-exit and block-alternate lists, and the function-level lists are empty — for every body and every plan (block
    alternates on block-structured instructions only, which is all the API accepts); no nesting assumption. -/
theorem resolveSpecial_clears (f : Func) (hsp : f.hasSpecial = true) (hsc : ∀ x ∈ f.body, AltScope x) :
    (∀ y ∈ (resolveSpecial f).body, Cleared y) ∧ (resolveSpecial f).entry = [] ∧ (resolveSpecial f).exit = []
    ∧ (resolveSpecial f).body.length = f.body.length := by
  obtain ⟨ys, h1, h2, h3⟩ := rloop_clears (f.body.length - 1) (modifyAt f.body (f.body.length - 1) (fun i => { i with mode := some .before }))
    { body := modifyAt f.body (f.body.length - 1) (fun i => { i with mode := some .before }),
      entry := entryToks f, exit := f.exit, nlocals := f.nlocals } [] []
    (forall_mem_modifyAt hsc _ fun _ h => h) (by simp)
  rw [List.nil_append, List.append_nil, List.length_nil] at h1
  rw [resolveSpecial_of_special f hsp]
  dsimp only
  exact ⟨by rw [h1]; exact h3, rfl, rfl, by rw [h1, h2, modifyAt_length]⟩

theorem rstep_passes_cleared (last : Nat) (s : RState) (idx : Nat) (ins : Instr) (hq : Quiet s) (hc : Cleared ins) :
    ∃ st, rstep last s idx ins = { s with stack := st } := by
  have hab : ∀ k, s.onElseOrEnd.any (·.1 == k) = false ∧ s.onEndBefore.any (·.1 == k) = false ∧ s.onEndAfter.any (·.1 == k) = false :=
    fun k => by rw [hq.t1, hq.t2, hq.t3]; exact ⟨rfl, rfl, rfl⟩
  rw [rstep_cleared last s idx ins hc hq.entry hq.exit hq.del]
  -- with empty tables the flushes of `pass` do nothing
  unfold pass
  split
  · exact ⟨_, rfl⟩
  · exact ⟨_, rfl⟩
  · exact ⟨_, rfl⟩
  · exact ⟨s.stack, flushE_absent s idx _ (hab _).1⟩
  · split
    · exact ⟨s.stack, rfl⟩
    · exact ⟨_, endE_absent _ idx _ (hab _).1 (hab _).2.1 (hab _).2.2⟩
  · exact ⟨s.stack, rfl⟩

theorem rloop_passes_cleared (last : Nat) : ∀ (xs : List Instr) (s : RState) (idx : Nat), Quiet s → (∀ x ∈ xs, Cleared x) →
    ∃ st, rloop last s idx xs = { s with stack := st } := by
  intro xs
  induction xs with
  | nil => intro s idx _ _; exact ⟨s.stack, rfl⟩
  | cons x xs ih =>
    intro s idx hq hc
    obtain ⟨st, hst⟩ := rstep_passes_cleared last s idx x hq (hc x (List.mem_cons_self ..))
    simp only [rloop, hst]
    have hq' : Quiet { s with stack := st } := ⟨hq.entry, hq.exit, hq.del, hq.t1, hq.t2, hq.t3⟩
    obtain ⟨st', h'⟩ := ih { s with stack := st } (idx + 1) hq' (fun y hy => hc y (List.mem_cons_of_mem _ hy))
    exact ⟨st', h'⟩

/-- **Resolving again changes nothing**: the function that the first encode leaves behind is encoded to the same code, and no further
    local is added — the lowering half of "encoding again gives the same bytes"; no nesting assumption. -/
theorem lower_resolved_again (f : Func) (hsp : f.hasSpecial = true) (hsc : ∀ x ∈ f.body, AltScope x) :
    lower (resolveSpecial f) = lower f := by
  obtain ⟨hcl, hen, hex, -⟩ := resolveSpecial_clears f hsp hsc
  have hsp' : (resolveSpecial f).hasSpecial = true := by rw [resolveSpecial_of_special f hsp]; exact hsp
  show lower (resolveSpecial f) = (emit (resolveSpecial f), (resolveSpecial f).added)
  generalize resolveSpecial f = g at hcl hen hex hsp'
  -- the second resolution passes over every instruction
  obtain ⟨st, hst⟩ := rloop_passes_cleared (g.body.length - 1) (modifyAt g.body (g.body.length - 1) (fun i => { i with mode := some .before }))
    { body := modifyAt g.body (g.body.length - 1) (fun i => { i with mode := some .before }), entry := [], exit := [], nlocals := g.nlocals } 0
    ⟨rfl, rfl, rfl, rfl, rfl, rfl⟩ (forall_mem_modifyAt hcl _ fun _ h => h)
  rw [lower, resolveSpecial_of_special g hsp']
  simp only [entryToks, hen, hex, List.isEmpty_nil, if_true, hst, emit, modifyAt_length, emitFrom_modifyMode, Nat.add_zero]

end Orca.Lower
