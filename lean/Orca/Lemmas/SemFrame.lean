import Orca.Lemmas.Sem
import Orca.Lemmas.SemScope
/-! States and outcomes up to the flag locals (`FlagEq`, `CoreEq`, `OutRel`), and the instructions that do not name them: an opcode
    other than `local.get/set/tee` neither reads nor writes the locals (`stepCore_nonlocal`), so a bare instruction of the program run
    from two states that differ in flag locals only does the same up to them and leaves them alone (`runOne_op_frame`). -/
namespace Orca.Sem

variable {fns : List Callee}

theorem setNth_eq_set (l : List Nat) (i v : Nat) : setNth l i v = l.set i v := by
  unfold setNth
  split
  · rfl
  · exact (List.set_eq_of_length_le (by omega)).symm

theorem setNth_length (l : List Nat) (i v : Nat) : (setNth l i v).length = l.length := by
  rw [setNth_eq_set, List.length_set]

theorem setNth_get_ne (l : List Nat) (i v j : Nat) (h : j ≠ i) : (setNth l i v)[j]? = l[j]? := by
  rw [setNth_eq_set, List.getElem?_set_ne (Ne.symm h)]

theorem setNth_get_self (l : List Nat) (i v : Nat) (h : i < l.length) : (setNth l i v)[i]? = some v := by
  rw [setNth_eq_set, List.getElem?_set_self h]

/-- `s` is a state of the monitored original, `s'` of the lowered run: they agree except in the locals `F` (the flag locals the
    lowering adds) -/
structure FlagEq (F : List Nat) (s s' : St) : Prop where
  stack : s'.stack = s.stack
  globals : s'.globals = s.globals
  mem : s'.mem = s.mem
  trace : s'.trace = s.trace
  len : s'.locals.length = s.locals.length
  locals : ∀ i, i ∉ F → s'.locals[i]? = s.locals[i]?

theorem FlagEq.refl (F : List Nat) (s : St) : FlagEq F s s := ⟨rfl, rfl, rfl, rfl, rfl, fun _ _ => rfl⟩

theorem FlagEq.fire {F s s'} (h : FlagEq F s s') (ps : List Nat) : FlagEq F (s.fire ps) (s'.fire ps) :=
  ⟨h.stack, h.globals, h.mem, by simp [St.fire, h.trace], h.len, h.locals⟩

theorem FlagEq.withStack {F s s'} (h : FlagEq F s s') (st : List Nat) :
    FlagEq F { s with stack := st } { s' with stack := st } :=
  ⟨rfl, h.globals, h.mem, h.trace, h.len, h.locals⟩

theorem FlagEq.exitTo {F s s'} (h : FlagEq F s s') (base : List Nat) (a : Nat) : FlagEq F (s.exitTo base a) (s'.exitTo base a) :=
  ⟨by simp [St.exitTo, h.stack], h.globals, h.mem, h.trace, h.len, h.locals⟩

def Out.All (P : St → Prop) : Out → Prop
  | .normal s | .br _ _ s | .ret s | .trap s => P s
  | .stuck _ => True

theorem Out.All.imp {P Q : St → Prop} {o : Out} (h : ∀ s, P s → Q s) (ho : o.All P) : o.All Q := by
  cases o <;> first | exact h _ ho | trivial

theorem Out.All.onNormal {P : St → Prop} {o : Out} {g : St → St} (hg : ∀ s, P s → P (g s)) (h : o.All P) :
    (o.onNormal g).All P := by
  cases o <;> simp_all [Out.All, Out.onNormal]

def Out.noPend : Out → Prop
  | .br _ pd _ => pd = none
  | _ => True

/-- outcomes of the monitored run and of the lowered run: same shape, no pending probe in the lowered one, states equal
    up to flag locals -/
def OutRel (F : List Nat) : Out → Out → Prop
  | .normal s, .normal s' => FlagEq F s s'
  | .br n _ s, .br n' pd' s' => n' = n ∧ pd' = none ∧ FlagEq F s s'
  | .ret s, .ret s' => FlagEq F s s'
  | .trap s, .trap s' => FlagEq F s s'
  | _, _ => False

theorem OutRel.normal_inv {F s o'} (h : OutRel F (.normal s) o') : ∃ r, o' = .normal r ∧ FlagEq F s r := by
  cases o' <;> simp [OutRel] at h
  exact ⟨_, rfl, h⟩

theorem OutRel.br_inv {F n pd s o'} (h : OutRel F (.br n pd s) o') : ∃ r, o' = .br n none r ∧ FlagEq F s r := by
  cases o' <;> simp [OutRel] at h
  obtain ⟨rfl, rfl, h⟩ := h
  exact ⟨_, rfl, h⟩

theorem OutRel.ret_inv {F s o'} (h : OutRel F (.ret s) o') : ∃ r, o' = .ret r ∧ FlagEq F s r := by
  cases o' <;> simp [OutRel] at h
  exact ⟨_, rfl, h⟩

theorem OutRel.trap_inv {F s o'} (h : OutRel F (.trap s) o') : ∃ r, o' = .trap r ∧ FlagEq F s r := by
  cases o' <;> simp [OutRel] at h
  exact ⟨_, rfl, h⟩

theorem OutRel.ok {F o o'} (h : OutRel F o o') : o'.ok = true := by
  cases o <;> cases o' <;> simp_all [OutRel]

theorem OutRel.isNormal {F o o'} (h : OutRel F o o') : o'.isNormal = o.isNormal := by
  cases o <;> cases o' <;> simp_all [OutRel, Out.isNormal]

theorem OutRel.onNormal_fire {F o o'} (h : OutRel F o o') (ps : List Nat) :
    OutRel F (o.onNormal (·.fire ps)) (o'.onNormal (·.fire ps)) := by
  cases o <;> cases o' <;> simp_all [OutRel, Out.onNormal]
  exact FlagEq.fire h ps

structure CoreEq (F : List Nat) (c c' : Core) : Prop where
  stack : c'.stack = c.stack
  globals : c'.globals = c.globals
  mem : c'.mem = c.mem
  len : c'.locals.length = c.locals.length
  locals : ∀ i, i ∉ F → c'.locals[i]? = c.locals[i]?

theorem FlagEq.core {F s s'} (h : FlagEq F s s') : CoreEq F s.core s'.core :=
  ⟨h.stack, h.globals, h.mem, h.len, h.locals⟩

theorem withCore_flagEq {F s s' c c'} (h : FlagEq F s s') (hc : CoreEq F c c') : FlagEq F (s.withCore c) (s'.withCore c') :=
  ⟨hc.stack, hc.globals, hc.mem, h.trace, hc.len, hc.locals⟩

def CoreRRel (F : List Nat) : CoreR → CoreR → Prop
  | .ok c, .ok c' => CoreEq F c c'
  | .trap, .trap => True
  | .call f, .call f' => f' = f
  | .stuck, .stuck => True
  | _, _ => False

def CoreR.withLocals (l : List Nat) : CoreR → CoreR
  | .ok c => .ok { c with locals := l }
  | r => r

theorem stepCore_nonlocal {k : OpK} (hk : k.local? = none) (c : Core) (l : List Nat) :
    stepCore k { c with locals := l } = (stepCore k c).withLocals l := by
  -- by evaluation, on the shape of the stack where the opcode looks at it
  obtain ⟨st, lo, gl, me⟩ := c
  cases k with
  | localGet i | localSet i | localTee i => cases hk
  | nop | const v | call f | other t => rfl
  | globalGet i | globalSet i | load off | store off => dsimp only [stepCore]; split <;> first | rfl | (split <;> rfl)
  | divU | remU => rcases st with _ | ⟨_ | b, _ | ⟨a, st⟩⟩ <;> rfl
  | _ => rcases st with _ | ⟨a, _ | ⟨b, _ | ⟨c, st⟩⟩⟩ <;> rfl

theorem CoreEq.eq_withLocals {F c c'} (h : CoreEq F c c') : c' = { c with locals := c'.locals } := by
  obtain ⟨st, lo, gl, me⟩ := c
  obtain ⟨st', lo', gl', me'⟩ := c'
  obtain ⟨rfl, rfl, rfl, _, _⟩ := h
  rfl

theorem CoreEq.setLocal {F c c'} (h : CoreEq F c c') (st : List Nat) (i v : Nat) (hi : i < c.locals.length) :
    CoreEq F { c with stack := st, locals := setNth c.locals i v } { c' with stack := st, locals := setNth c'.locals i v } := by
  refine ⟨rfl, h.globals, h.mem, by simp [setNth_length, h.len], fun j hj => ?_⟩
  by_cases hji : j = i
  · subst hji; rw [setNth_get_self _ _ _ hi, setNth_get_self _ _ _ (h.len ▸ hi)]
  · rw [setNth_get_ne _ _ _ _ hji, setNth_get_ne _ _ _ _ hji]; exact h.locals j hj

theorem CoreR.ok_eq_withLocals {c2 : Core} {r : CoreR} {l : List Nat} (h : CoreR.ok c2 = r.withLocals l) : c2.locals = l := by
  cases r <;> cases h
  rfl

theorem CoreRRel.withLocals {F : List Nat} {c c' : Core} {r : CoreR} (h : CoreEq F c c') (hr : r = r.withLocals c.locals) :
    CoreRRel F r (r.withLocals c'.locals) := by
  cases r with
  | ok c2 =>
    have : c2.locals = c.locals := CoreR.ok_eq_withLocals hr
    exact ⟨rfl, rfl, rfl, this ▸ h.len, fun i hi => this ▸ h.locals i hi⟩
  | _ => trivial

theorem OpK.local?_eq_some {k : OpK} {i : Nat} (h : k.local? = some i) : k = .localGet i ∨ k = .localSet i ∨ k = .localTee i := by
  cases k <;> simp_all [OpK.local?]

theorem stepCore_frame (F : List Nat) (k : OpK) (c c' : Core) (h : CoreEq F c c')
    (hk : ∀ i, k.local? = some i → i ∉ F) : CoreRRel F (stepCore k c) (stepCore k c') := by
  cases hl : k.local? with
  | none =>
    rw [h.eq_withLocals, stepCore_nonlocal hl c c'.locals]
    exact CoreRRel.withLocals h (stepCore_nonlocal hl c c.locals)
  | some i =>
    have hi := h.locals i (hk i hl)
    rcases OpK.local?_eq_some hl with rfl | rfl | rfl
    · dsimp only [stepCore]; rw [hi]
      cases c.locals[i]? with
      | none => trivial
      | some v => exact ⟨by simp [h.stack], h.globals, h.mem, h.len, h.locals⟩
    · dsimp only [stepCore]; rw [h.stack, h.len]
      split
      · split
        · exact h.setLocal _ i _ ‹_›
        · trivial
      · trivial
    · dsimp only [stepCore]; rw [h.stack, h.len]
      split
      · split
        · exact h.stack ▸ h.setLocal _ i _ ‹_›
        · trivial
      · trivial

theorem stepCore_locals (k : OpK) (c c2 : Core) (h : stepCore k c = .ok c2) :
    c2.locals.length = c.locals.length ∧ ∀ x, k.local? ≠ some x → c2.locals[x]? = c.locals[x]? := by
  cases hl : k.local? with
  | none =>
    have e : stepCore k c = (stepCore k c).withLocals c.locals := stepCore_nonlocal hl c c.locals
    have : c2.locals = c.locals := CoreR.ok_eq_withLocals (h.symm.trans e)
    rw [this]; exact ⟨rfl, fun _ _ => rfl⟩
  | some i =>
    rcases OpK.local?_eq_some hl with rfl | rfl | rfl <;> dsimp only [stepCore] at h <;> (repeat' split at h) <;> cases h
    · exact ⟨rfl, fun _ _ => rfl⟩
    · exact ⟨setNth_length .., fun x hx => setNth_get_ne _ _ _ _ fun e => hx (e ▸ rfl)⟩
    · exact ⟨setNth_length .., fun x hx => setNth_get_ne _ _ _ _ fun e => hx (e ▸ rfl)⟩

theorem callRet_frame {F : List Nat} {s s' : St} (h : FlagEq F s s') (c : Callee) (o : Out)
    (ok : (callRet false [] s c o).ok = true) :
    OutRel F (callRet false [] s c o) (callRet false [] s' c o)
      ∧ (callRet false [] s' c o).All (fun r => r.locals = s'.locals) := by
  have ret : ∀ r : St, OutRel F (callRet false [] s c (.normal r)) (callRet false [] s' c (.normal r))
      ∧ (callRet false [] s' c (.normal r)).All (fun r => r.locals = s'.locals) :=
    fun r => ⟨⟨by simp [h.stack], rfl, rfl, rfl, h.len, h.locals⟩, rfl⟩
  cases o with
  | normal r => exact ret r
  | ret r => exact ret r
  | br n pd r =>
    cases n with
    | zero => exact ret r
    | succ n => cases ok
  | trap r => exact ⟨⟨h.stack, rfl, rfl, rfl, h.len, h.locals⟩, rfl⟩
  | stuck w => cases ok

theorem runOne_op_frame (F : List Nat) (f : Nat) (t : OpK) (s s' : St) (h : FlagEq F s s')
    (hk : ∀ i, t.local? = some i → i ∉ F) (ok : (runOne fns false [] (f + 1) (.op [] [] t) s).ok = true) :
    OutRel F (runOne fns false [] (f + 1) (.op [] [] t) s) (runOne fns false [] (f + 1) (.op [] [] t) s')
      ∧ (runOne fns false [] (f + 1) (.op [] [] t) s').All
          (fun r => r.locals.length = s'.locals.length ∧ ∀ x ∈ F, r.locals[x]? = s'.locals[x]?) := by
  rw [runOne_bare] at ok ⊢
  rw [runOne_bare]
  simp only [stepTok] at ok ⊢
  have hfr := stepCore_frame F t s.core s'.core h.core hk
  have hloc := stepCore_locals t s'.core
  revert ok hfr hloc
  -- `CoreRRel` relates results of the same shape only
  cases stepCore t s.core <;> cases stepCore t s'.core <;> intro ok hfr hloc <;> try exact hfr.elim
  case ok.ok => exact ⟨withCore_flagEq h hfr, (hloc _ rfl).1, fun x hx => (hloc _ rfl).2 x fun e => hk x e hx⟩
  case trap.trap => exact ⟨h, rfl, fun _ _ => rfl⟩
  case call.call =>
    cases hfr
    revert ok
    refine callOut_cases (motive := fun o o' => o.ok = true → OutRel F o o' ∧ o'.All _) h.stack (fun _ ok => by cases ok)
      (fun c _ => ⟨⟨rfl, h.globals, h.mem, by simp [h.trace], h.len, h.locals⟩, rfl, fun _ _ => rfl⟩) fun c ok => ?_
    rw [h.globals, h.mem, h.trace]
    exact ⟨(callRet_frame h c _ ok).1, (callRet_frame h c _ ok).2.imp fun r e => by rw [e]; exact ⟨rfl, fun _ _ => rfl⟩⟩
  case stuck.stuck => cases ok
end Orca.Sem
