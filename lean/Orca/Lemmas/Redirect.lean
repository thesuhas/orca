import Orca.Lemmas.Preserve
/-!
Slots of the three vectors are stable: an operation of the edit API changes the entry at position `j` of a vector only when it
addresses `j` (delete it; for functions also: convert it, replace the import it carries). With `encode_spec` this turns the
one-step statements of C06–C12 and C30 into statements about the encoded module after any further history.
-/
namespace Orca.Edit
open Orca.Reindex

/-- `op` does not address the function entry `x` stored at position `j` -/
def SparesF (j : Nat) (x : Item) : Op → Prop
  | .deleteFunc id => id ≠ j
  | .localToImport id _ => id ≠ j ∨ x.imp = true
  | .replaceImport k _ _ => x.imp = false ∨ x.impId ≠ k
  | .encode => False
  | _ => True

def SparedBy (j : Nat) (x : Item) (ops : List Op) : Prop := ∀ op ∈ ops, SparesF j x op

def Spares (sp : Sp) (j : Nat) (x : Item) (op : Op) : Prop :=
  match sp with
  | .F => SparesF j x op
  | .G => (∀ id, op = .deleteGlobal id → id ≠ j) ∧ op ≠ .encode
  | .M => (∀ id, op = .deleteMem id → id ≠ j) ∧ op ≠ .encode

def Spared (sp : Sp) (j : Nat) (x : Item) (ops : List Op) : Prop := ∀ op ∈ ops, Spares sp j x op

/-- `SparesF` in terms of what a history must not contain -/
theorem sparesF_of_ne {j : Nat} {x : Item} {op : Op} (h1 : op ≠ .encode) (h2 : op ≠ .deleteFunc j)
    (h3 : x.imp = true ∨ ∀ u, op ≠ .localToImport j u) (h4 : x.imp = false ∨ ∀ u c, op ≠ .replaceImport x.impId u c) :
    SparesF j x op := by
  cases op with
  | deleteFunc i => exact fun h => h2 (h ▸ rfl)
  | localToImport i u => exact h3.symm.imp_left (fun h e => h u (e ▸ rfl))
  | replaceImport k u c => exact h4.imp_right (fun h e => h u c (e ▸ rfl))
  | encode => exact h1 rfl
  | _ => exact True.intro

theorem step_slot (s : St) (op : Op) (sp : Sp) (j : Nat) (x : Item) (hx : (s.space sp).items[j]? = some x) (hs : Spares sp j x op) :
    ((step s op).1.space sp).items[j]? = some x := by
  -- the seven additions are straight-line definitions: each step about them (here and in `added_slot`) holds by unfolding
  -- `step` down to `items ++ [mkItem …]` on the addition's own vector and to the untouched vector on the other two
  have app : ∀ {l : List Item} (it : Item), l[j]? = some x → (l ++ [it])[j]? = some x :=
    fun it h => by rw [List.getElem?_append_left (getElem?_lt h)]; exact h
  cases op with
  | addLocalFunc _ _ | addImportFunc _ => cases sp; exact app _ hx; exact hx; exact hx
  | addGlobal _ _ | addImportedGlobal _ | iterAddGlobal _ _ => cases sp; exact hx; exact app _ hx; exact hx
  | addLocalMem _ | addImportMem _ => cases sp; exact hx; exact hx; exact app _ hx
  | deleteFunc id => exact (deleteEntity_slot s .F id sp j (fun h => by subst h; exact hs)).trans hx
  | deleteGlobal id => exact (deleteEntity_slot s .G id sp j (fun h => by subst h; exact hs.1 id rfl)).trans hx
  | deleteMem id => exact (deleteEntity_slot s .M id sp j (fun h => by subst h; exact hs.1 id rfl)).trans hx
  | inject _ _ | modGlobalInit _ _ | addExport _ | deleteExport _ | addData _ _ =>
    rw [(step_keepsVectors (by trivial) s).1]; exact hx
  | encode => cases sp <;> first | exact hs.elim | exact absurd rfl hs.2
  | localToImport id uid =>
    show ((localToImport s id uid).1.space sp).items[j]? = some x
    by_cases hl : ∃ y, s.f.items[id]? = some y ∧ y.imp = false
    · obtain ⟨y, hy, hloc⟩ := hl
      rw [localToImport_local hy hloc]
      cases sp with
      | F =>
        -- slot `id` holds a local function: were it `j`, `x` would be spared for being imported
        have hne : id ≠ j := fun e => by
          subst e; cases hx.symm.trans hy
          exact absurd (hs.resolve_left (fun h => h rfl)) (by simp [hloc])
        exact (List.getElem?_set_ne hne).trans hx
      | G => exact hx
      | M => exact hx
    · rw [localToImport_of_not_local hl]; exact hx
  | replaceImport k uid sites =>
    show ((replaceImport s k uid sites).1.space sp).items[j]? = some x
    by_cases hf : ∃ e fid, s.imports[k]? = some e ∧ e.sp = some .F
        ∧ s.f.items.findIdx? (fun (it : Item) => !it.del && it.imp && it.impId == k) = some fid
    · obtain ⟨e, fid, he, hk, hfind⟩ := hf
      rw [replaceImport_found he hk hfind]
      cases sp with
      | F =>
        -- slot `fid` holds an imported function carrying `k`: were it `j`, `x` would not be spared
        have hne : fid ≠ j := fun e => by
          subst e
          obtain ⟨y, hy, _, himp, hk'⟩ := carrier_spec hfind
          cases hx.symm.trans hy
          exact hs.elim (fun h => by simp [h] at himp) (fun h => h hk')
        exact (List.getElem?_set_ne hne).trans hx
      | G => exact hx
      | M => exact hx
    · rw [replaceImport_of_not_found hf]; exact hx

theorem run_slot (ops : List Op) : ∀ (s : St) (sp : Sp) (j : Nat) (x : Item), (s.space sp).items[j]? = some x → Spared sp j x ops →
    ((run s ops).1.space sp).items[j]? = some x :=
  fun s sp j x hx hs => run_preserves (fun s op hx hs => step_slot s op sp j x hx hs) ops s hx hs

theorem Spared.noEncode {sp : Sp} {j : Nat} {x : Item} {ops : List Op} (h : Spared sp j x ops) : NoEncode ops := by
  intro op ho e
  subst e
  have := h _ ho
  cases sp with
  | F => exact this
  | G => exact this.2 rfl
  | M => exact this.2 rfl

/-- `run_slot` with `encode_spec`: every emitted reference whose stored id was `j` designates what the slot held all along -/
theorem encode_designates (s0 : St) (h0 : StInv s0) (sp : Sp) (j : Nat) (x : Item) (hx : (s0.space sp).items[j]? = some x)
    (ops : List Op) (hs : Spared sp j x ops) :
    let s := (run s0 ops).1
    (∃ s' F G M res st, encode s = (s', Ret.encoded F G M res st)
        ∧ (∀ r' ∈ res ++ st.toList, ∃ r ∈ allRefs s, r'.site = r.site ∧ r'.sp = r.sp
            ∧ (∃ u, PointsTo s r u ∧ designated F G M r' = some u)
            ∧ (r.sp = sp → r.idx = j → designated F G M r' = some x.uid)))
    ∨ (∃ s' why, encode s = (s', Ret.panic why) ∧ ∃ r ∈ allRefs s, Dangling s r) := by
  intro s
  have hslot : (s.space sp).items[j]? = some x := run_slot ops s0 sp j x hx hs
  have hinv := spaceInv_after s0 h0 ops hs.noEncode
  refine (encode_spec s hinv.1 hinv.2.1 hinv.2.2).imp_left ?_
  rintro ⟨s', F, G, M, res, st, he, hall⟩
  refine ⟨s', F, G, M, res, st, he, fun r' hr' => ?_⟩
  obtain ⟨r, hr, h1, h2, u, hpt, hd⟩ := hall r' hr'
  refine ⟨r, hr, h1, h2, ⟨u, hpt, hd⟩, fun hsp hidx => ?_⟩
  -- what the stored id points to is what the slot holds
  obtain ⟨item, hi, _, hu⟩ := hpt
  rw [hsp, hidx, hslot] at hi
  cases hi
  rw [hd, hu]

/-- the operations that add an entity: its index space and the entity -/
def addedBy : Op → Option (Sp × Nat)
  | .addLocalFunc uid _ => some (.F, uid)
  | .addImportFunc uid => some (.F, uid)
  | .addGlobal uid _ => some (.G, uid)
  | .addImportedGlobal uid => some (.G, uid)
  | .iterAddGlobal uid _ => some (.G, uid)
  | .addLocalMem uid => some (.M, uid)
  | .addImportMem uid => some (.M, uid)
  | _ => none

def reportedId : Ret → Option Nat
  | .id n => some n
  | .id2 n _ => some n
  | _ => none

theorem added_slot (s : St) (op : Op) (sp : Sp) (uid : Nat) (h : addedBy op = some (sp, uid)) :
    reportedId (step s op).2 = some (s.space sp).items.length
    ∧ ∃ x, ((step s op).1.space sp).items[(s.space sp).items.length]? = some x ∧ x.uid = uid ∧ x.del = false := by
  -- unfolded, the vector of `sp` after the addition is `(s.space sp).items ++ [mkItem _ _ uid _]`
  cases op with
  | addLocalFunc _ _ | addGlobal _ _ | iterAddGlobal _ _ | addLocalMem _ | addImportFunc _ | addImportedGlobal _ | addImportMem _ =>
    cases h; exact ⟨rfl, _, List.getElem?_concat_length, rfl, rfl⟩
  | _ => cases h

theorem added_id_designates (s0 : St) (h0 : StInv s0) (op : Op) (sp : Sp) (uid : Nat) (hadd : addedBy op = some (sp, uid))
    (ops : List Op)
    (hs : ∀ x, ((step s0 op).1.space sp).items[(s0.space sp).items.length]? = some x → Spared sp (s0.space sp).items.length x ops) :
    let n := (s0.space sp).items.length
    let s := (run (step s0 op).1 ops).1
    reportedId (step s0 op).2 = some n
    ∧ ((∃ s' F G M res st, encode s = (s', Ret.encoded F G M res st)
        ∧ (∀ r' ∈ res ++ st.toList, ∃ r ∈ allRefs s, r'.site = r.site ∧ r'.sp = r.sp
            ∧ (∃ u, PointsTo s r u ∧ designated F G M r' = some u)
            ∧ (r.sp = sp → r.idx = n → designated F G M r' = some uid)))
      ∨ (∃ s' why, encode s = (s', Ret.panic why) ∧ ∃ r ∈ allRefs s, Dangling s r)) := by
  intro n s
  obtain ⟨hrep, x, hx, hu, _⟩ := added_slot s0 op sp uid hadd
  refine ⟨hrep, ?_⟩
  have h1 : StInv (step s0 op).1 := stInv_step s0 op (by rintro rfl; cases hadd) h0
  have := encode_designates _ h1 sp n x hx ops (hs x hx)
  rw [hu] at this
  exact this

end Orca.Edit
