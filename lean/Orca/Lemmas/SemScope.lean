import Orca.Model.Sem
/-! The scope of the branch simulation as properties of the program text — the flag locals of a fragment, "no construct inside is a
    target", "no annotation on `br_table`, no loop around a target, the program names no local in `F`" — and what the text
    alone settles: a pending branch's flag is a flag of the fragment, distinct flags tell the pending branches (and their depths) apart,
    and where no construct is a target every flag belongs to a branch that leaves. -/
namespace Orca.Sem

mutual
def flagsI : Instr → List Nat
  | .br _ _ (some sa) _ => [sa.flag]
  | .brIf _ _ (some sa) _ => [sa.flag]
  | .brTable _ _ (some sa) _ _ => [sa.flag]
  | .block _ _ _ _ body => flagsL body
  | .loop _ _ _ body => flagsL body
  | .ite _ _ _ _ _ t e _ => flagsL t ++ flagsL e
  | _ => []
def flagsL : List Instr → List Nat
  | [] => []
  | i :: is => flagsI i ++ flagsL is
end

mutual
/-- no construct inside is the target of an annotated branch -/
def noTargetsI : Instr → Bool
  | .block _ _ _ _ body => (pendingL 0 body).isEmpty && noTargetsL body
  | .loop _ _ _ body => (pendingL 0 body).isEmpty && noTargetsL body
  | .ite _ _ _ _ _ t e _ => (pendingL 0 t).isEmpty && (pendingL 0 e).isEmpty && noTargetsL t && noTargetsL e
  | _ => true
def noTargetsL : List Instr → Bool
  | [] => true
  | i :: is => noTargetsI i && noTargetsL is
end

def OpK.local? : OpK → Option Nat
  | .localGet i | .localSet i | .localTee i => some i
  | _ => none

mutual
/-- the scope: no annotation on `br_table`; no loop contains (or is) the target of an annotated branch; no instruction of the
    program names a local in `F` -/
def scopedI (F : List Nat) : Instr → Bool
  | .op _ _ k => match k.local? with | some i => !F.contains i | none => true
  | .block _ _ _ _ body => scopedL F body
  | .loop _ _ _ body => (pendingL 0 body).isEmpty && noTargetsL body && scopedL F body
  | .ite _ _ _ _ _ t e _ => scopedL F t && scopedL F e
  | .brTable _ _ sa _ _ => sa.isNone
  | _ => true
def scopedL (F : List Nat) : List Instr → Bool
  | [] => true
  | i :: is => scopedI F i && scopedL F is
end

mutual
/-- no branch carries a semantic-after annotation -/
def noSAI : Instr → Bool
  | .br _ _ sa _ | .brIf _ _ sa _ | .brTable _ _ sa _ _ => sa.isNone
  | .block _ _ _ _ body => noSAL body
  | .loop _ _ _ body => noSAL body
  | .ite _ _ _ _ _ t e _ => noSAL t && noSAL e
  | _ => true
def noSAL : List Instr → Bool
  | [] => true
  | i :: is => noSAI i && noSAL is
end

mutual
theorem pendI_mem_flags (d : Nat) (sa : SA) : ∀ i, sa ∈ pendingI d i → sa.flag ∈ flagsI i
  | .op .. | .probe _ | .ret .. | .unreachable .. => fun h => by simp [pendingI] at h
  | .br _ _ none _ | .brIf _ _ none _ | .brTable _ _ none _ _ => fun h => by simp [pendingI] at h
  | .br _ _ (some s) n | .brIf _ _ (some s) n => fun h => by
    simp only [pendingI, List.mem_ite_nil_right, List.mem_singleton] at h
    simp [flagsI, h.2]
  | .brTable _ _ (some s) ts dflt => fun h => by
    simp only [pendingI, List.mem_filterMap] at h
    obtain ⟨n, _, hn⟩ := h
    split at hn
    · simp at hn; subst hn; simp [flagsI]
    · simp at hn
  | .block _ _ _ _ body | .loop _ _ _ body => fun h => by
    simp only [pendingI] at h; simpa [flagsI] using pendL_mem_flags (d + 1) sa body h
  | .ite _ _ _ _ _ t e _ => fun h => by
    simp only [pendingI, List.mem_append] at h
    simp only [flagsI, List.mem_append]
    rcases h with h | h
    · exact .inl (pendL_mem_flags (d + 1) sa t h)
    · exact .inr (pendL_mem_flags (d + 1) sa e h)
theorem pendL_mem_flags (d : Nat) (sa : SA) : ∀ p, sa ∈ pendingL d p → sa.flag ∈ flagsL p
  | [] => fun h => by simp [pendingL] at h
  | i :: is => fun h => by
    simp only [pendingL, List.mem_append] at h
    simp only [flagsL, List.mem_append]
    rcases h with h | h
    · exact .inl (pendI_mem_flags d sa i h)
    · exact .inr (pendL_mem_flags d sa is h)
end

theorem nodup_append_disjoint {α : Type} {a b : List α} (h : (a ++ b).Nodup) {x : α} (ha : x ∈ a) (hb : x ∈ b) : False :=
  (List.nodup_append.mp h).2.2 x ha x hb rfl

mutual
theorem pendI_inj (F : List Nat) (sa sb : SA) (d d' : Nat) (hf : sa.flag = sb.flag) :
    ∀ i, scopedI F i = true → (flagsI i).Nodup → sa ∈ pendingI d i → sb ∈ pendingI d' i → sa = sb ∧ d = d'
  | .op .. | .probe _ | .ret .. | .unreachable .. => fun _ _ h _ => by simp [pendingI] at h
  | .br _ _ none _ | .brIf _ _ none _ | .brTable _ _ none _ _ => fun _ _ h _ => by simp [pendingI] at h
  | .brTable _ _ (some s) _ _ => fun hsc _ _ _ => by simp [scopedI] at hsc
  | .br _ _ (some s) n | .brIf _ _ (some s) n => fun _ _ ha hb => by
    simp only [pendingI, List.mem_ite_nil_right, List.mem_singleton] at ha hb
    exact ⟨ha.2.trans hb.2.symm, ha.1.symm.trans hb.1⟩
  | .block _ _ _ _ body | .loop _ _ _ body => fun hsc hnd ha hb => by
    simp only [pendingI] at ha hb
    exact (pendL_inj (F := F) hf body (by simp_all [scopedI]) (by simpa [flagsI] using hnd) ha hb).imp_right
      Nat.succ.inj
  | .ite _ _ _ _ _ t e _ => fun hsc hnd ha hb => by
    simp only [pendingI, List.mem_append] at ha hb
    simp only [scopedI, Bool.and_eq_true] at hsc
    simp only [flagsI] at hnd
    have hndt : (flagsL t).Nodup := (List.nodup_append.mp hnd).1
    have hnde : (flagsL e).Nodup := (List.nodup_append.mp hnd).2.1
    rcases ha with ha | ha <;> rcases hb with hb | hb
    · exact (pendL_inj hf t hsc.1 hndt ha hb).imp_right Nat.succ.inj
    · exact (nodup_append_disjoint hnd (pendL_mem_flags _ _ t ha) (hf ▸ pendL_mem_flags _ _ e hb)).elim
    · exact (nodup_append_disjoint hnd (hf ▸ pendL_mem_flags _ _ t hb) (pendL_mem_flags _ _ e ha)).elim
    · exact (pendL_inj hf e hsc.2 hnde ha hb).imp_right Nat.succ.inj
theorem pendL_inj {F : List Nat} {sa sb : SA} {d d' : Nat} (hf : sa.flag = sb.flag) :
    ∀ p, scopedL F p = true → (flagsL p).Nodup → sa ∈ pendingL d p → sb ∈ pendingL d' p → sa = sb ∧ d = d'
  | [] => fun _ _ h _ => by simp [pendingL] at h
  | i :: is => fun hsc hnd ha hb => by
    simp only [pendingL, List.mem_append] at ha hb
    simp only [scopedL, Bool.and_eq_true] at hsc
    simp only [flagsL] at hnd
    have hndi : (flagsI i).Nodup := (List.nodup_append.mp hnd).1
    have hnds : (flagsL is).Nodup := (List.nodup_append.mp hnd).2.1
    rcases ha with ha | ha <;> rcases hb with hb | hb
    · exact pendI_inj F sa sb d d' hf i hsc.1 hndi ha hb
    · exact (nodup_append_disjoint hnd (pendI_mem_flags _ _ i ha) (hf ▸ pendL_mem_flags _ _ is hb)).elim
    · exact (nodup_append_disjoint hnd (hf ▸ pendI_mem_flags _ _ i hb) (pendL_mem_flags _ _ is ha)).elim
    · exact pendL_inj hf is hsc.2 hnds ha hb
end

theorem escape_body {body : List Instr} {x : Nat} (h0 : pendingL 0 body = []) (h : ∃ d sa, sa ∈ pendingL d body ∧ sa.flag = x) :
    ∃ d sa, sa ∈ pendingL (d + 1) body ∧ sa.flag = x := by
  obtain ⟨d, sa, hm, hx⟩ := h
  cases d with
  | zero => rw [h0] at hm; cases hm
  | succ d => exact ⟨d, sa, hm, hx⟩

mutual
theorem escapeI (x : Nat) : ∀ i, noTargetsI i = true → x ∈ flagsI i → ∃ d sa, sa ∈ pendingI d i ∧ sa.flag = x
  | .op .. | .probe _ | .ret .. | .unreachable .. => fun _ h => by simp [flagsI] at h
  | .br _ _ none _ | .brIf _ _ none _ | .brTable _ _ none _ _ => fun _ h => by simp [flagsI] at h
  | .br _ _ (some s) n | .brIf _ _ (some s) n | .brTable _ _ (some s) _ n => fun _ h => by
    simp only [flagsI, List.mem_singleton] at h
    exact ⟨n, s, by simp [pendingI], h.symm⟩
  | .block _ _ _ _ body | .loop _ _ _ body => fun hnt h => by
    simp only [noTargetsI, Bool.and_eq_true, List.isEmpty_iff] at hnt
    simp only [pendingI]
    exact escape_body hnt.1 (escapeL x body hnt.2 (by simpa [flagsI] using h))
  | .ite _ _ _ _ _ t e _ => fun hnt h => by
    simp only [noTargetsI, Bool.and_eq_true, List.isEmpty_iff] at hnt
    simp only [flagsI, List.mem_append] at h
    rcases h with h | h
    · obtain ⟨d, sa, hm, hx⟩ := escape_body hnt.1.1.1 (escapeL x t hnt.1.2 h)
      exact ⟨d, sa, by simp [pendingI, hm], hx⟩
    · obtain ⟨d, sa, hm, hx⟩ := escape_body hnt.1.1.2 (escapeL x e hnt.2 h)
      exact ⟨d, sa, by simp [pendingI, hm], hx⟩
theorem escapeL (x : Nat) : ∀ p, noTargetsL p = true → x ∈ flagsL p → ∃ d sa, sa ∈ pendingL d p ∧ sa.flag = x
  | [] => fun _ h => by simp [flagsL] at h
  | i :: is => fun hnt h => by
    simp only [noTargetsL, Bool.and_eq_true] at hnt
    simp only [flagsL, List.mem_append] at h
    rcases h with h | h
    · obtain ⟨d, sa, hm, hx⟩ := escapeI x i hnt.1 h
      exact ⟨d, sa, by simp [pendingL, hm], hx⟩
    · obtain ⟨d, sa, hm, hx⟩ := escapeL x is hnt.2 h
      exact ⟨d, sa, by simp [pendingL, hm], hx⟩
end

mutual
theorem noSAI_scope : ∀ i, noSAI i = true →
    flagsI i = [] ∧ noTargetsI i = true ∧ scopedI [] i = true ∧ ∀ d, pendingI d i = []
  | .op _ _ k => fun _ => ⟨rfl, rfl, by cases h : k.local? <;> simp [scopedI, h], fun _ => by simp [pendingI]⟩
  | .probe _ | .ret .. | .unreachable .. => fun _ => ⟨rfl, rfl, rfl, fun _ => by simp [pendingI]⟩
  | .br _ _ sa _ | .brIf _ _ sa _ => fun h => by cases sa <;> simp_all [flagsI, noSAI, noTargetsI, scopedI, pendingI]
  | .brTable _ _ sa _ _ => fun h => by cases sa <;> simp_all [flagsI, noSAI, noTargetsI, scopedI, pendingI]
  | .block _ _ _ _ body | .loop _ _ _ body => fun h => by
    simp only [noSAI] at h
    simp [flagsI, noTargetsI, scopedI, pendingI, noSAL_scope body h]
  | .ite _ _ _ _ _ t e _ => fun h => by
    simp only [noSAI, Bool.and_eq_true] at h
    simp [flagsI, noTargetsI, scopedI, pendingI, noSAL_scope t h.1, noSAL_scope e h.2]
theorem noSAL_scope : ∀ p, noSAL p = true →
    flagsL p = [] ∧ noTargetsL p = true ∧ scopedL [] p = true ∧ ∀ d, pendingL d p = []
  | [] => fun _ => ⟨rfl, rfl, rfl, fun _ => by simp [pendingL]⟩
  | i :: is => fun h => by
    simp only [noSAL, Bool.and_eq_true] at h
    simp [flagsL, noTargetsL, scopedL, pendingL, noSAI_scope i h.1, noSAL_scope is h.2]
end

theorem pendingI_noSA (d : Nat) : ∀ i, noSAI i = true → pendingI d i = [] := fun i h => (noSAI_scope i h).2.2.2 d

end Orca.Sem
