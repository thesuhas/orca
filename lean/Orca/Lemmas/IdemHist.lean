import Orca.Lemmas.Ops
/-!
C05, the part that holds. When no `recalculate_ids` flag is set the id maps are the identity on everything stored, so `encode` returns
the state it was given (`encode_fixpoint`). Operations that set no flag (injections of any kind, initialiser changes, `add_global`,
exports added or deleted, data segments) keep what that needs (`idemInv_step`), so after any history of them on a parsed module
encoding leaves the state as it is (`c05_encode_idem_after_quiet_history`, Props/C05).
-/
namespace Orca.Edit
open Orca.Reindex

/-- no operation since parsing (or since the module was built) set a `recalculate_ids` flag -/
def NoReindexPending (s : St) : Prop := s.f.recalc = false ∧ s.g.recalc = false ∧ s.m.recalc = false

theorem remap_id (x : Space) (h : x.recalc = false) : remap x = some x.items := by simp [remap, h]

theorem mapRef_id (s : St) (hf : IdsFresh s.f.items) (hg : IdsFresh s.g.items) (hm : IdsFresh s.m.items)
    (r : Ref) (item : Item) (hp : (s.space r.sp).items[r.idx]? = some item) :
    mapRef s.f.items s.g.items s.m.items r = some r := by
  have hfr : IdsFresh (s.space r.sp).items := by cases r.sp; exact hf; exact hg; exact hm
  have hpick : pick s.f.items s.g.items s.m.items r.sp = (s.space r.sp).items := by cases r.sp <;> rfl
  rw [mapRef_eq, hpick, mapping_id_of_fresh _ hfr r.idx item hp]
  rfl

def InRange (s : St) (r : Ref) : Prop := ∃ item, (s.space r.sp).items[r.idx]? = some item

def KeysNodup (tbl : List (Nat × List Ref)) : Prop := (tbl.map (fun (p : Nat × List Ref) => p.1)).Nodup

theorem lookup_of_mem (tbl : List (Nat × List Ref)) (hk : KeysNodup tbl) (p : Nat × List Ref) (hp : p ∈ tbl) :
    lookup tbl p.1 = p.2 := by
  induction tbl with
  | nil => simp at hp
  | cons q tbl ih =>
    simp only [KeysNodup, List.map_cons, List.nodup_cons] at hk
    rcases List.mem_cons.mp hp with rfl | hp'
    · simp [lookup]
    · have hne : q.1 ≠ p.1 := by
        intro he; apply hk.1; rw [he]; exact List.mem_map_of_mem hp'
      have := ih hk.2 hp'
      simp only [lookup, List.find?_cons] at this ⊢
      have hb : (q.1 == p.1) = false := by simpa using hne
      simp [hb, this]

theorem updAssoc_same (tbl : List (Nat × List Ref)) (hk : KeysNodup tbl) (u : Nat) :
    updAssoc tbl u (lookup tbl u) = tbl := by
  unfold updAssoc
  conv => rhs; rw [← List.map_id tbl]
  apply List.map_congr_left
  intro p hp
  by_cases h : p.1 = u
  · subst h
    simp [lookup_of_mem tbl hk p hp]
  · have : (p.1 == u) = false := by simpa using h
    simp [this]

theorem storeBack_same (tbl : List (Nat × List Ref)) (hk : KeysNodup tbl) (owners : List Nat) :
    storeBack tbl (owners.map (fun u => (u, lookup tbl u))) = tbl := by
  unfold storeBack
  induction owners with
  | nil => rfl
  | cons u owners ih =>
    simp only [List.map_cons, List.foldl_cons, updAssoc_same tbl hk u]
    exact ih

theorem keysNodup_concat {l : List (Nat × List Ref)} (h : KeysNodup l) {k : Nat} (hk : ∀ p ∈ l, p.1 ≠ k) (v : List Ref) :
    KeysNodup (l ++ [(k, v)]) := by
  unfold KeysNodup
  rw [List.map_append, List.nodup_append]
  refine ⟨h, by simp, fun a ha b hb => ?_⟩
  obtain ⟨p, hp, rfl⟩ := List.mem_map.mp ha
  cases List.mem_singleton.mp hb
  exact hk p hp

theorem keysNodup_setAssoc (l : List (Nat × List Ref)) (k : Nat) (v : List Ref) (h : KeysNodup l) : KeysNodup (setAssoc l k v) := by
  unfold setAssoc
  split
  · have : (l.map (fun p => if p.1 == k then (k, v) else p)).map (fun (p : Nat × List Ref) => p.1) = l.map (fun p => p.1) := by
      rw [List.map_map]
      refine List.map_congr_left (fun p _ => ?_)
      by_cases hp : p.1 = k <;> simp [hp]
    unfold KeysNodup; rw [this]; exact h
  · rename_i hany
    exact keysNodup_concat h (fun p hp hpk => hany (List.any_eq_true.mpr ⟨p, hp, by simp [hpk]⟩)) v

theorem forall_setAssoc {P : Ref → Prop} {l : List (Nat × List Ref)} (hl : ∀ p ∈ l, ∀ r ∈ p.2, P r) (k : Nat) {v : List Ref}
    (hv : ∀ r ∈ v, P r) : ∀ p ∈ setAssoc l k v, ∀ r ∈ p.2, P r := by
  unfold setAssoc
  split
  · intro p hp
    obtain ⟨q, hq, rfl⟩ := List.mem_map.mp hp
    split
    · exact hv
    · exact hl q hq
  · exact List.forall_mem_append.mpr ⟨hl, by simpa using hv⟩

theorem encode_fixpoint (s : St) (hn : NoReindexPending s)
    (hf : IdsFresh s.f.items) (hg : IdsFresh s.g.items) (hm : IdsFresh s.m.items)
    (hr : ∀ r ∈ allRefs s, InRange s r) (hk1 : KeysNodup s.ginit) (hk2 : KeysNodup s.code) :
    (encode s).1 = s := by
  obtain ⟨h1, h2, h3⟩ := hn
  -- the id maps are the identity on everything stored
  have hid : ∀ r ∈ allRefs s, mapRef s.f.items s.g.items s.m.items r = some (id r) := fun r h =>
    (hr r h).elim fun item hi => mapRef_id s hf hg hm r item hi
  have est : s.start.bind (mapRef s.f.items s.g.items s.m.items) = s.start := by
    cases hst : s.start with
    | none => rfl
    | some r0 => exact hid r0 (start_mem_allRefs hst)
  unfold encode
  simp only [remap_id _ h1, remap_id _ h2, remap_id _ h3, fixAll_of_forall id hid, est, List.map_id_fun, id_eq,
    storeBack_same _ hk1, storeBack_same _ hk2, List.map_map]
  have : (s.datas.map ((fun (d : (Ref × List Ref) × Ref) => d.1) ∘ fun d => ((d.1, d.2), d.1))) = s.datas := by
    simp [Function.comp_def]
  simp [this]

/-- what `encode_fixpoint` needs besides the vector invariant -/
structure IdemInv (s : St) : Prop where
  quiet : NoReindexPending s
  inRange : ∀ r ∈ allRefs s, InRange s r
  kg : KeysNodup s.ginit
  kc : KeysNodup s.code

/-- the operations that set no flag, with the side conditions under which the caller's references make sense -/
def QuietOp (s : St) : Op → Prop
  | .inject _ sites => ∀ r ∈ sites, InRange s r
  | .modGlobalInit _ sites => ∀ r ∈ sites, InRange s r
  | .addExport r => InRange s r
  | .deleteExport _ => True
  | .addData mem sites => InRange s mem ∧ ∀ r ∈ sites, InRange s r
  | .addGlobal uid sites => (∀ p ∈ s.ginit, p.1 ≠ uid) ∧ ∀ r ∈ sites, InRange s r
  | .iterAddGlobal uid sites => (∀ p ∈ s.ginit, p.1 ≠ uid) ∧ ∀ r ∈ sites, InRange s r
  | _ => False

def QuietHist : St → List Op → Prop
  | _, [] => True
  | s, op :: ops => QuietOp s op ∧ QuietHist (step s op).1 ops

theorem inRange_iff {s : St} {r : Ref} : InRange s r ↔ r.idx < (s.space r.sp).items.length :=
  ⟨fun ⟨_, h⟩ => getElem?_lt h, fun h => ⟨_, List.getElem?_eq_getElem h⟩⟩

theorem InRange.mono {s s' : St} {r : Ref} (h : InRange s r)
    (hl : ∀ sp, (s.space sp).items.length ≤ (s'.space sp).items.length) : InRange s' r :=
  inRange_iff.mpr (Nat.lt_of_lt_of_le (inRange_iff.mp h) (hl r.sp))

theorem idemInv_addGlobal (s : St) (uid : Nat) (sites : List Ref) (hk : ∀ p ∈ s.ginit, p.1 ≠ uid) (hs : ∀ r ∈ sites, InRange s r)
    (h : IdemInv s) : IdemInv (addGlobal s uid sites).1 := by
  -- the global vector has grown: every reference stays in range
  have mono : ∀ {r}, InRange s r → InRange (addGlobal s uid sites).1 r := fun h =>
    h.mono (fun sp => by cases sp <;> simp [addGlobal, St.space, Space.push])
  obtain ⟨r1, r2, r3, r4, r5, r6, r7⟩ := forall_allRefs.mp (fun r hr => mono (h.inRange r hr))
  exact ⟨h.quiet, forall_allRefs.mpr ⟨List.forall_mem_append.mpr ⟨r1, fun _ hp => List.mem_singleton.mp hp ▸ fun r h => mono (hs r h)⟩,
    r2, r3, r4, r5, r6, r7⟩, keysNodup_concat h.kg hk _, h.kc⟩

theorem idemInv_step (s : St) (op : Op) (hq : QuietOp s op) (h : IdemInv s) : IdemInv (step s op).1 := by
  obtain ⟨q, hr, kg, kc⟩ := h
  obtain ⟨r1, r2, r3, r4, r5, r6, r7⟩ := forall_allRefs.mp hr
  -- where no vector changes `InRange` of the new state is `InRange s`; saying so (`P := InRange s`) lets that be checked once for
  -- the seven tables instead of table by table
  cases op with
  | inject id sites =>
    rcases inject_fst s id sites with e | ⟨it, e⟩ <;> rw [show (step s (.inject id sites)).1 = _ from e]
    · exact ⟨q, hr, kg, kc⟩
    · exact ⟨q, (forall_allRefs (P := InRange s)).mpr ⟨r1, r2, r3, r4, forall_setAssoc r5 _ (List.forall_mem_append.mpr
        ⟨fun r hr => (lookup_subset s.code it.uid r hr).elim fun p hp => r5 p hp.1 r hp.2, hq⟩), r6, r7⟩,
        kg, keysNodup_setAssoc _ _ _ kc⟩
  | modGlobalInit id sites =>
    rcases modGlobalInit_fst s id sites with e | ⟨it, e⟩ <;> rw [show (step s (.modGlobalInit id sites)).1 = _ from e]
    · exact ⟨q, hr, kg, kc⟩
    · exact ⟨q, (forall_allRefs (P := InRange s)).mpr ⟨forall_setAssoc r1 _ hq, r2, r3, r4, r5, r6, r7⟩,
        keysNodup_setAssoc _ _ _ kg, kc⟩
  | addExport x =>
    exact ⟨q, (forall_allRefs (P := InRange s)).mpr
      ⟨r1, List.forall_mem_append.mpr ⟨r2, fun _ he => List.mem_singleton.mp he ▸ hq⟩, r3, r4, r5, r6, r7⟩, kg, kc⟩
  | deleteExport i =>
    rcases deleteExport_fst s i with e | ⟨x, hx, e⟩ <;> rw [show (step s (.deleteExport i)).1 = _ from e]
    · exact ⟨q, hr, kg, kc⟩
    · refine ⟨q, (forall_allRefs (P := InRange s)).mpr ⟨r1, fun e' he' => ?_, r3, r4, r5, r6, r7⟩, kg, kc⟩
      rcases List.mem_or_eq_of_mem_set he' with he' | rfl
      · exact r2 e' he'
      · exact r2 x (List.mem_of_getElem? hx)
  | addData mem sites =>
    exact ⟨q, (forall_allRefs (P := InRange s)).mpr
      ⟨r1, r2, r3, r4, r5, List.forall_mem_append.mpr ⟨r6, fun _ hd => List.mem_singleton.mp hd ▸ hq⟩, r7⟩, kg, kc⟩
  -- the iterators' `add_global` is `Module::add_global` on the index spaces: `iterAddGlobal` unfolds to `addGlobal`
  | addGlobal uid sites | iterAddGlobal uid sites => exact idemInv_addGlobal s uid sites hq.1 hq.2 ⟨q, hr, kg, kc⟩
  | _ => exact hq.elim

end Orca.Edit

