import Orca.Lemmas.SemRuns
import Orca.Lemmas.SemErase
import Orca.Lemmas.SemFrame
/-! Semantic-after on branches: the code's flag scheme (a fresh local per annotated branch, `1` in front of the branch, `0` behind it, a
    chain `local.get flag; if <probes> …` behind the target's `end`; never cleared) simulates the monitor on the scope of Lemmas/SemScope,
    up to the flag locals (Lemmas/SemFrame). `SimOk` is the invariant for one fragment — the lowered run, `OutRel`, what it leaves in the
    flag locals (`Frame`, `PostOk`) — and composes as the lowering does (`SimOk.append`, `.leave`, `.arm`, `.flagged`), so that
    `branch_sim_aux` is one citation per instruction. -/
namespace Orca.Sem

variable {fns : List Callee}

def flagIs (s : St) (x v : Nat) : Prop := s.locals[x]? = some v

theorem flagIs.lt {s : St} {x v : Nat} (h : flagIs s x v) : x < s.locals.length :=
  (List.getElem?_eq_some_iff.mp h).1

theorem FlagEq.setLocal {F s s'} (h : FlagEq F s s') (x v : Nat) (hx : x ∈ F) : FlagEq F s (s'.setLocal x v) :=
  ⟨h.stack, h.globals, h.mem, h.trace, (setNth_length ..).trans h.len,
   fun i hi => (setNth_get_ne _ _ _ i (fun e => hi (e ▸ hx))).trans (h.locals i hi)⟩

/-- what the chain of checks behind a target's `end` fires: the probes of the first entry whose flag is not 0 -/
def chainPs (s : St) : List SA → List Nat
  | [] => []
  | sa :: rest => if (s.locals[sa.flag]?).getD 0 ≠ 0 then sa.ps else chainPs s rest

theorem chainPs_fire (s : St) (ps : List Nat) (L : List SA) : chainPs (s.fire ps) L = chainPs s L := by
  induction L with
  | nil => rfl
  | cons sa rest ih => simp only [chainPs, ih]; rfl

theorem flagChain_runs : ∀ (L : List SA) (s : St), (∀ sa ∈ L, ∃ v, s.locals[sa.flag]? = some v) →
    RunsL fns false [] (flagChain L) s (.normal (s.fire (chainPs s L)))
  | [], s, _ => by simpa [flagChain, chainPs] using (RunsL.nil (fns := fns) (m := false) (fx := []) (s := s))
  | sa :: rest, s, h => by
    obtain ⟨v, hv⟩ := h sa (List.mem_cons_self ..)
    have harm : RunsL fns false [] (if v ≠ 0 then probes sa.ps else flagChain rest) s
        (.normal (s.fire (chainPs s (sa :: rest)))) := by
      simp only [chainPs, hv, Option.getD_some]
      split
      · exact RunsL.probes_only sa.ps
      · exact flagChain_runs rest s (fun sb hb => h sb (List.mem_cons_of_mem _ hb))
    exact RunsL.cons_normal (Runs1.localGet sa.flag v hv)
      (RunsL.cons_normal (Runs1.ite (s := { s with stack := v :: s.stack }) rfl harm) RunsL.nil)

theorem chainPs_eq (s : St) (pd : Option SA) : ∀ (L : List SA), (∀ sp, pd = some sp → sp ∈ L ∧ flagIs s sp.flag 1) →
    (∀ sa ∈ L, pd = some sa ∨ flagIs s sa.flag 0) → chainPs s L = saPs pd
  | [], h1, _ => by
    cases pd with
    | none => rfl
    | some sp => cases (h1 sp rfl).1
  | sa :: rest, h1, h => by
    rcases h sa (List.mem_cons_self ..) with rfl | h0
    · simp [chainPs, saPs, show s.locals[sa.flag]? = some 1 from (h1 sa rfl).2]
    · rw [chainPs, show s.locals[sa.flag]? = some 0 from h0]
      refine chainPs_eq s pd rest (fun sp hsp => ⟨?_, (h1 sp hsp).2⟩) (fun sb hb => h sb (List.mem_cons_of_mem _ hb))
      rcases List.mem_cons.mp (h1 sp hsp).1 with rfl | hm
      · cases h0.symm.trans (h1 sp hsp).2
      · exact hm

/-- flag locals that are not flags of the fragment keep their value; the number of locals stays -/
def Frame (F flags : List Nat) (s0 : St) (o' : Out) : Prop :=
  o'.All (fun r => r.locals.length = s0.locals.length ∧ ∀ x ∈ F, x ∉ flags → r.locals[x]? = s0.locals[x]?)

theorem Frame.mono {F flags flags' s0 o'} (h : Frame F flags s0 o') (hsub : ∀ x, x ∈ flags → x ∈ flags') :
    Frame F flags' s0 o' :=
  Out.All.imp (fun _ hr => ⟨hr.1, fun x hx hn => hr.2 x hx (fun hm => hn (hsub x hm))⟩) h

theorem Frame.of_locals {F flags : List Nat} {s0 s1 : St} {o' : Out} (e : s0.locals = s1.locals) (h : Frame F flags s0 o') :
    Frame F flags s1 o' := by
  unfold Frame at *; rw [← e]; exact h

theorem Frame.fire_start {F flags s0 o'} (ps : List Nat) (h : Frame F flags (s0.fire ps) o') : Frame F flags s0 o' :=
  Frame.of_locals rfl h

theorem Frame.seq {F fa fb s0 r1 o'} (h1 : r1.locals.length = s0.locals.length ∧ ∀ x ∈ F, x ∉ fa → r1.locals[x]? = s0.locals[x]?)
    (h2 : Frame F fb r1 o') : Frame F (fa ++ fb) s0 o' :=
  Out.All.imp (fun _ hr => ⟨hr.1.trans h1.1, fun x hx hn =>
    (hr.2 x hx (fun hm => hn (List.mem_append_right _ hm))).trans (h1.2 x hx (fun hm => hn (List.mem_append_left _ hm)))⟩) h2

/-- what the flags of the fragment's leaving branches hold when the fragment is left -/
def PostOk (pend : Nat → List SA) : Out → Out → Prop
  | .normal _, .normal r => ∀ d sa, sa ∈ pend d → flagIs r sa.flag 0
  | .br n pd _, .br _ _ r =>
    (∀ sp, pd = some sp → sp ∈ pend n ∧ flagIs r sp.flag 1)
      ∧ (∀ d sa, sa ∈ pend d → (∀ sp, pd = some sp → sa.flag ≠ sp.flag) → flagIs r sa.flag 0)
  | _, _ => True

theorem PostOk.pend_none {F : List Nat} {pend : Nat → List SA} {n : Nat} {pd : Option SA} {s : St} {o' : Out}
    (hrel : OutRel F (.br n pd s) o') (h : PostOk pend (.br n pd s) o') (he : pend n = []) : pd = none := by
  obtain ⟨r, rfl, _⟩ := hrel.br_inv
  cases pd with
  | none => rfl
  | some sp => have := (h.1 sp rfl).1; rw [he] at this; cases this

theorem PostOk.noPend {F : List Nat} {pend : Nat → List SA} {o o' : Out} (hrel : OutRel F o o') (h : PostOk pend o o')
    (he : ∀ d, pend d = []) : o.noPend := by
  cases o with
  | br n pd s => exact PostOk.pend_none hrel h (he n)
  | _ => trivial

theorem PostOk.widen {p q pq : Nat → List SA} {o o' : Out} (hpq : ∀ d sa, sa ∈ pq d → sa ∈ p d ∨ sa ∈ q d)
    (hp : ∀ d sa, sa ∈ p d → sa ∈ pq d) (h : PostOk p o o') (hq : o'.All fun r => ∀ d sa, sa ∈ q d → flagIs r sa.flag 0) :
    PostOk pq o o' := by
  cases o <;> cases o' <;> first
    | trivial
    | exact fun d sa hm => (hpq d sa hm).elim (h d sa) (hq d sa)
    | exact ⟨fun sp hsp => ⟨hp _ _ (h.1 sp hsp).1, (h.1 sp hsp).2⟩,
        fun d sa hm hne => (hpq d sa hm).elim (fun hm => h.2 d sa hm hne) (hq d sa)⟩

/-- `Lo`: entries the chain checks besides those of `body` (the other arm of an `if`); their flags are 0 -/
theorem chain_fires (F : List Nat) (body : List Instr) (hsc : scopedL F body = true) (hnd : (flagsL body).Nodup) (Lo L : List SA)
    (hL : ∀ sa, sa ∈ L ↔ sa ∈ pendingL 0 body ∨ sa ∈ Lo) (pd : Option SA) (r : St)
    (h1 : ∀ sp, pd = some sp → sp ∈ pendingL 0 body ∧ flagIs r sp.flag 1)
    (h2 : ∀ d sa, sa ∈ pendingL d body → (∀ sp, pd = some sp → sa.flag ≠ sp.flag) → flagIs r sa.flag 0)
    (ho : ∀ sa ∈ Lo, flagIs r sa.flag 0) :
    chainPs r L = saPs pd ∧ ∀ sa ∈ L, ∃ v, r.locals[sa.flag]? = some v := by
  have hall : ∀ sa ∈ L, pd = some sa ∨ flagIs r sa.flag 0 := by
    intro sa hsa
    rcases (hL sa).mp hsa with hsa | hsa
    · cases pd with
      | none => exact .inr (h2 0 sa hsa (fun _ e => by cases e))
      | some sp =>
        by_cases hf : sa.flag = sp.flag
        · exact .inl (congrArg some (pendL_inj hf body hsc hnd hsa (h1 sp rfl).1).1.symm)
        · exact .inr (h2 0 sa hsa (fun _ e => by cases e; exact hf))
    · exact .inr (ho sa hsa)
  exact ⟨chainPs_eq r pd L (fun sp hsp => ⟨(hL sp).mpr (.inl (h1 sp hsp).1), (h1 sp hsp).2⟩) hall,
    fun sa hsa => (hall sa hsa).elim (fun e => ⟨1, (h1 sa e).2⟩) (fun h0 => ⟨0, h0⟩)⟩

/-- the conclusion of the simulation for one fragment: `prog` is its lowering, `flags` its flag locals, `pend d` its
    annotated branches that reach `d` levels out of it -/
def SimOk (fns : List Callee) (F flags : List Nat) (pend : Nat → List SA) (prog : List Instr) (s' : St) (o : Out) : Prop :=
  ∃ o', RunsL fns false [] prog s' o' ∧ OutRel F o o' ∧ Frame F flags s' o' ∧ PostOk pend o o'

theorem SimOk.probes_pre {F flags : List Nat} {pend : Nat → List SA} {prog : List Instr} {s' : St} {o : Out} (b : List Nat)
    (h : SimOk fns F flags pend prog (s'.fire b) o) : SimOk fns F flags pend (probes b ++ prog) s' o :=
  let ⟨o', hr, hrel, hfr, hpo⟩ := h
  ⟨o', RunsL.probes_pre b hr, hrel, Frame.fire_start b hfr, hpo⟩

theorem PostOk.nil {o o' : Out} (hpd : o.noPend) : PostOk (fun _ => []) o o' := by
  cases o <;> cases o' <;> first
    | trivial
    | exact fun d sa hm => absurd hm List.not_mem_nil
    | exact ⟨fun sp hsp => (by cases hpd; cases hsp), fun d sa hm _ => absurd hm List.not_mem_nil⟩

theorem SimOk.quiet {F : List Nat} {prog : List Instr} {s' : St} {o o' : Out} (hr : RunsL fns false [] prog s' o')
    (hrel : OutRel F o o')
    (hloc : o'.All fun r => r.locals.length = s'.locals.length ∧ ∀ x ∈ F, r.locals[x]? = s'.locals[x]?) (hpd : o.noPend) :
    SimOk fns F [] (fun _ => []) prog s' o :=
  ⟨o', hr, hrel, Out.All.imp (fun _ hr => ⟨hr.1, fun x hx _ => hr.2 x hx⟩) hloc, PostOk.nil hpd⟩

theorem SimOk.plain {F : List Nat} {prog : List Instr} {s' : St} {o o' : Out} (hr : RunsL fns false [] prog s' o')
    (hrel : OutRel F o o') (hloc : o'.All fun r => r.locals = s'.locals) (hpd : o.noPend) :
    SimOk fns F [] (fun _ => []) prog s' o :=
  SimOk.quiet hr hrel (Out.All.imp (fun r e => by rw [e]; exact ⟨rfl, fun _ _ => rfl⟩) hloc) hpd

theorem SimOk.append {F fa fb : List Nat} {pa pb : Nat → List SA} {A B : List Instr} {s' : St} {o1 : Out} {k : St → Out}
    (hnd : (fa ++ fb).Nodup) (hF : ∀ x ∈ fa ++ fb, x ∈ F) (hz : ∀ x ∈ fa ++ fb, flagIs s' x 0)
    (hma : ∀ d sa, sa ∈ pa d → sa.flag ∈ fa) (hmb : ∀ d sa, sa ∈ pb d → sa.flag ∈ fb)
    (h1 : SimOk fns F fa pa A s' o1)
    (h2 : ∀ s1 r1, o1 = .normal s1 → FlagEq F s1 r1 → (∀ x ∈ fb, flagIs r1 x 0) → SimOk fns F fb pb B r1 (k s1)) :
    SimOk fns F (fa ++ fb) (fun d => pa d ++ pb d) (A ++ B) s' (o1.andThen k) := by
  obtain ⟨o1', hr1, hrel1, hfr1, hpo1⟩ := h1
  obtain ⟨hFa, hFb⟩ := List.forall_mem_append.mp hF
  replace hz := (List.forall_mem_append.mp hz).2
  have hdis : ∀ x, x ∈ fa → x ∈ fb → False := fun x => nodup_append_disjoint hnd
  -- `A` leaves the flags of `B` alone
  have hB : o1'.All fun r => ∀ x ∈ fb, flagIs r x 0 :=
    Out.All.imp (fun r hr x hx => (hr.2 x (hFb x hx) (fun hxa => hdis x hxa hx)).trans (hz x hx)) hfr1
  cases o1 with
  | normal s1 =>
    obtain ⟨r1, rfl, hfe1⟩ := hrel1.normal_inv
    obtain ⟨o2', hr2, hrel2, hfr2, hpo2⟩ := h2 s1 r1 rfl hfe1 hB
    refine ⟨o2', RunsL.append_normal hr1 hr2, hrel2, Frame.seq hfr1 hfr2, ?_⟩
    -- the flags of `A`'s leaving branches are 0 after `A`, and `B` leaves them alone
    refine hpo2.widen (p := pb) (q := pa) (fun d sa hm => (List.mem_append.mp hm).symm) (fun d sa hm => List.mem_append_right _ hm)
      (Out.All.imp (fun r hr d sa hm => ?_) hfr2)
    exact (hr.2 _ (hFa _ (hma d sa hm)) (fun hxb => hdis _ (hma d sa hm) hxb)).trans (hpo1 d sa hm)
  | stuck w => exact hrel1.elim
  | _ =>
    exact ⟨o1', RunsL.append_abrupt hr1 hrel1.isNormal, hrel1,
      hfr1.mono (fun x hx => List.mem_append_left _ hx),
      hpo1.widen (p := pa) (q := pb) (fun d sa hm => List.mem_append.mp hm) (fun d sa hm => List.mem_append_left _ hm)
        (Out.All.imp (fun r hr d sa hm => hr _ (hmb d sa hm)) hB)⟩

/-- leaving a block-like construct whose `body` was simulated: `I` is the lowered construct, `L` the entries the chain of checks
    behind it looks at (those of `body`, and possibly others, `Lo`, whose flags the body does not own and finds 0) -/
theorem SimOk.leave {F fx : List Nat} {body : List Instr} {se : St} {ob : Out}
    (hbody : SimOk fns F (flagsL body) (fun d => pendingL d body) (lowerL fx body) se ob)
    (hsc : scopedL F body = true) (hnd : (flagsL body).Nodup)
    {Lo L : List SA} (hL : ∀ sa, sa ∈ L ↔ sa ∈ pendingL 0 body ∨ sa ∈ Lo)
    (hLo : ∀ sa ∈ Lo, sa.flag ∈ F ∧ sa.flag ∉ flagsL body ∧ flagIs se sa.flag 0)
    {s0 : St} (hloc : se.locals = s0.locals) {ann : Ann} {base : List Nat} {a : Nat} {I : Instr}
    (hI : ∀ ob', OutRel F ob ob' → RunsL fns false [] (lowerL fx body) se ob' →
            Runs1 fns false [] I s0 (leaveBlock false {} base a (ob'.onNormal (·.fire ann.exit)))) :
    SimOk fns F (flagsL body) (fun d => pendingL (d + 1) body) (I :: (flagChain L ++ probes ann.after)) s0
      (leaveBlock true ann base a ob) := by
  obtain ⟨ob', hr, hrel, hfr, hpo⟩ := hbody
  have h1 := hI ob' hrel hr
  have hLo' : ob'.All fun r => ∀ sa ∈ Lo, flagIs r sa.flag 0 :=
    Out.All.imp (fun r hr sa hm => let ⟨h1, h2, h3⟩ := hLo sa hm; (hr.2 _ h1 h2).trans h3) hfr
  have hfr0 : Frame F (flagsL body) s0 ob' := hfr.of_locals hloc
  -- the end of the construct, reached in the lowered state `r` by falling through (`pd = none`) or by a branch carrying `pd`
  have fin : ∀ (s r : St) (pd : Option SA), FlagEq F s r →
      (r.locals.length = s0.locals.length ∧ ∀ x ∈ F, x ∉ flagsL body → r.locals[x]? = s0.locals[x]?) →
      (∀ sp, pd = some sp → sp ∈ pendingL 0 body ∧ flagIs r sp.flag 1) →
      (∀ d sa, sa ∈ pendingL d body → (∀ sp, pd = some sp → sa.flag ≠ sp.flag) → flagIs r sa.flag 0) →
      (∀ sa ∈ Lo, flagIs r sa.flag 0) → Runs1 fns false [] I s0 (.normal r) →
      SimOk fns F (flagsL body) (fun d => pendingL (d + 1) body) (I :: (flagChain L ++ probes ann.after)) s0
        (.normal ((s.fire (saPs pd)).fire ann.after)) := by
    intro s r pd hfe hfrr hp1 hp2 hpo hrun
    obtain ⟨hcp, hdef⟩ := chain_fires F body hsc hnd Lo L hL pd r hp1 hp2 hpo
    -- the checks behind the `end`, then the construct's own semantic-after probes
    have hch : RunsL fns false [] (flagChain L ++ probes ann.after) r (.normal ((r.fire (chainPs r L)).fire ann.after)) :=
      RunsL.probes_post ann.after (flagChain_runs L r hdef)
    rw [hcp] at hch
    refine ⟨_, RunsL.cons_normal hrun hch, (hfe.fire _).fire _, hfrr, fun d sa hm => hp2 (d + 1) sa hm fun sp hsp hf => ?_⟩
    -- the same flag at depths `d + 1` and 0: impossible
    have hd : d + 1 = 0 := (pendL_inj hf body hsc hnd hm (hp1 sp hsp).1).2
    omega
  cases ob with
  | normal sb =>
    obtain ⟨rb, rfl, hfeb⟩ := hrel.normal_inv
    have := fin (sb.fire ann.exit) (rb.fire ann.exit) none (hfeb.fire _) hfr0 (fun _ e => by cases e)
      (fun d sa hm _ => hpo d sa hm) hLo' h1
    simpa [leaveBlock, saPs] using this
  | br n pd sb =>
    obtain ⟨rb, rfl, hfeb⟩ := hrel.br_inv
    cases n with
    | zero => exact fin (sb.exitTo base a) (rb.exitTo base a) pd (hfeb.exitTo base a) hfr0 hpo.1 hpo.2 hLo' h1
    | succ n =>
      exact ⟨.br n none rb, RunsL.cons_abrupt h1 rfl, ⟨rfl, rfl, hfeb⟩, hfr0, hpo.1, fun d sa hm hne => hpo.2 (d + 1) sa hm hne⟩
  | ret sb => obtain ⟨rb, rfl, hfeb⟩ := hrel.ret_inv; exact ⟨.ret rb, RunsL.cons_abrupt h1 rfl, hfeb, hfr0, trivial⟩
  | trap sb => obtain ⟨rb, rfl, hfeb⟩ := hrel.trap_inv; exact ⟨.trap rb, RunsL.cons_abrupt h1 rfl, hfeb, hfr0, trivial⟩
  | stuck w => exact hrel.elim

/-- one `arm` of an `if` (`other` is the other; the two are then- and else-arm in either order): `leave`, then the entries of `other`,
    whose flags `arm` does not own, join the pending ones -/
theorem SimOk.arm {F fx : List Nat} {arm other : List Instr} {se : St} {ob : Out}
    (hbody : SimOk fns F (flagsL arm) (fun d => pendingL d arm) (lowerL fx arm) se ob)
    {flags : List Nat} {L : List SA} {pend : Nat → List SA}
    (hfl : (flagsL arm ++ flagsL other).Perm flags) (hL : (pendingL 0 arm ++ pendingL 0 other).Perm L)
    (hpend : ∀ d, (pendingL (d + 1) arm ++ pendingL (d + 1) other).Perm (pend d))
    (hsc : scopedL F arm = true) (hnd : flags.Nodup) (hF : ∀ x ∈ flags, x ∈ F) (hz : ∀ x ∈ flags, flagIs se x 0)
    {s0 : St} (hloc : se.locals = s0.locals) {ann : Ann} {base : List Nat} {a : Nat} {I : Instr}
    (hI : ∀ ob', OutRel F ob ob' → RunsL fns false [] (lowerL fx arm) se ob' →
            Runs1 fns false [] I s0 (leaveBlock false {} base a (ob'.onNormal (·.fire ann.exit)))) :
    SimOk fns F flags pend (I :: (flagChain L ++ probes ann.after)) s0 (leaveBlock true ann base a ob) := by
  have hnd' : (flagsL arm ++ flagsL other).Nodup := hfl.nodup_iff.mpr hnd
  -- the flag of an entry of `other` is a flag local that `arm` does not own, and is 0 where `arm` starts
  have hother : ∀ d sa, sa ∈ pendingL d other → sa.flag ∈ F ∧ sa.flag ∉ flagsL arm ∧ flagIs se sa.flag 0 := fun d sa hm =>
    have hm' := pendL_mem_flags d sa other hm
    have hmem := hfl.mem_iff.mp (List.mem_append_right _ hm')
    ⟨hF _ hmem, fun hxa => nodup_append_disjoint hnd' hxa hm', hz _ hmem⟩
  obtain ⟨o', hr, hrel, hfr, hpo⟩ :=
    SimOk.leave hbody hsc (List.nodup_append.mp hnd').1 (fun sa => hL.mem_iff.symm.trans List.mem_append) (hother 0) hloc hI
  refine ⟨o', hr, hrel, hfr.mono fun x hx => hfl.mem_iff.mp (List.mem_append_left _ hx),
    hpo.widen (q := fun d => pendingL (d + 1) other) (fun d sa hm => List.mem_append.mp ((hpend d).mem_iff.mpr hm))
      (fun d sa hm => (hpend d).mem_iff.mp (List.mem_append_left _ hm)) (Out.All.imp (fun r hr d sa hm => ?_) hfr)⟩
  -- `arm` leaves that flag alone: it is still 0 where `arm` ends
  obtain ⟨h1, h2, h3⟩ := hother (d + 1) sa hm
  rw [flagIs, hr.2 _ h1 h2, ← hloc]
  exact h3

/-- an annotated branch that is taken: its flag is 1, nothing else has changed -/
theorem SimOk.flagged {F : List Nat} {sa : SA} {n : Nat} {I : Instr} {rest : List Instr} {s1 r0 r1 : St}
    (hlt : sa.flag < r0.locals.length) (hrun : Runs1 fns false [] I (r0.setLocal sa.flag 1) (.br n none r1))
    (hfe : FlagEq F s1 r1) (hloc : r1.locals = (r0.setLocal sa.flag 1).locals) :
    SimOk fns F [sa.flag] (fun d => if n = d then [sa] else []) (setFlag sa.flag 1 ++ I :: rest) r0 (.br n (some sa) s1) := by
  refine ⟨.br n none r1, RunsL.setFlag_pre sa.flag 1 (by decide) hlt (RunsL.cons_abrupt hrun rfl), ⟨rfl, rfl, hfe⟩, ?_, ?_, ?_⟩
  · rw [Frame, Out.All, hloc]
    exact ⟨setNth_length .., fun x _ hn => setNth_get_ne _ _ _ _ (fun e => hn (by simp [e]))⟩
  · intro sp hsp; cases hsp
    exact ⟨by simp, by rw [flagIs, hloc]; exact setNth_get_self _ _ _ hlt⟩
  · intro d sb hm hne
    simp only [List.mem_ite_nil_right, List.mem_singleton] at hm
    exact (hne sa rfl (congrArg SA.flag hm.2)).elim

/-- an annotated conditional branch that is not taken: the flag goes up, comes down again, then the probes fire -/
theorem SimOk.flagged_skip {F : List Nat} {sa : SA} {n : Nat} {I : Instr} {a : List Nat} {s1 r0 r1 : St}
    (hflag : sa.flag ∈ F) (hlt : sa.flag < r0.locals.length)
    (hrun : Runs1 fns false [] I (r0.setLocal sa.flag 1) (.normal r1))
    (hfe : FlagEq F s1 r1) (hloc : r1.locals = (r0.setLocal sa.flag 1).locals) :
    SimOk fns F [sa.flag] (fun d => if n = d then [sa] else [])
      (setFlag sa.flag 1 ++ I :: (probes a ++ (setFlag sa.flag 0 ++ probes sa.ps))) r0
      (.normal ((s1.fire a).fire sa.ps)) := by
  have hlt1 : sa.flag < (r1.fire a).locals.length := by
    show _ < r1.locals.length; rw [hloc]; exact (setNth_length ..).symm ▸ hlt
  have hl2 : (((r1.fire a).setLocal sa.flag 0).fire sa.ps).locals = setNth (setNth r0.locals sa.flag 1) sa.flag 0 :=
    congrArg (setNth · sa.flag 0) hloc
  refine ⟨.normal (((r1.fire a).setLocal sa.flag 0).fire sa.ps), ?_, ((hfe.fire a).setLocal sa.flag 0 hflag).fire sa.ps, ?_, ?_⟩
  · exact RunsL.setFlag_pre sa.flag 1 (by decide) hlt (RunsL.cons_normal hrun
      (RunsL.probes_pre a (RunsL.setFlag_pre sa.flag 0 (by decide) hlt1 (RunsL.probes_only sa.ps))))
  · rw [Frame, Out.All, hl2, setNth_length, setNth_length]
    refine ⟨rfl, fun x _ hn => ?_⟩
    have hne : x ≠ sa.flag := fun e => hn (by simp [e])
    rw [setNth_get_ne _ _ _ _ hne, setNth_get_ne _ _ _ _ hne]
  · intro d sb hm
    simp only [List.mem_ite_nil_right, List.mem_singleton] at hm
    rw [hm.2]
    exact setNth_get_self _ _ 0 hlt1

/-- **The crate's flag scheme for semantic-after probes on `br` / `br_if` is right on the scope `scopedL`.** `p` with distinct flags, all in
    `F` and 0 in `s'`, and `s'` equal to `s` up to the locals `F`: a finished monitored run of `p` from `s` is matched by a run of the
    lowered `p`, monitor off, from `s'`, to the same outcome up to `F`, trace included (`SimOk` adds what is left in the flags). -/
theorem branch_sim_aux (F : List Nat) (fx : List Nat) : ∀ f : Nat,
    (∀ p s s' o, scopedL F p = true → (flagsL p).Nodup → (∀ x ∈ flagsL p, x ∈ F) →
        run fns true fx f p s = o → o.ok = true → FlagEq F s s' → (∀ x ∈ flagsL p, flagIs s' x 0) →
        SimOk fns F (flagsL p) (fun d => pendingL d p) (lowerL fx p) s' o)
    ∧ (∀ i s s' o, scopedI F i = true → (flagsI i).Nodup → (∀ x ∈ flagsI i, x ∈ F) →
        runOne fns true fx f i s = o → o.ok = true → FlagEq F s s' → (∀ x ∈ flagsI i, flagIs s' x 0) →
        SimOk fns F (flagsI i) (fun d => pendingI d i) (lower fx i) s' o) := by
  intro f
  induction f with
  | zero =>
    exact ⟨fun p s s' o _ _ _ h ok => (by rw [run_zero] at h; subst h; cases ok),
      fun i s s' o _ _ _ h ok => (by rw [runOne_zero] at h; subst h; cases ok)⟩
  | succ f ih =>
    obtain ⟨ihL, ihO⟩ := ih
    constructor
    · intro p s s' o hsc hnd hF h ok hfe hz
      cases p with
      | nil => cases h; exact SimOk.plain RunsL.nil hfe (hloc := rfl) (hpd := trivial)
      | cons i is =>
        simp only [scopedL, Bool.and_eq_true] at hsc
        simp only [flagsL, pendingL, lowerL] at hnd hF hz ⊢
        have hnd' := List.nodup_append.mp hnd
        have hF' := List.forall_mem_append.mp hF
        rw [run_cons] at h; subst h
        exact SimOk.append hnd hF hz (fun d sa => pendI_mem_flags d sa i) (fun d sa => pendL_mem_flags d sa is)
          (ihO i s s' _ hsc.1 hnd'.1 hF'.1 rfl (andThen_ok ok) hfe (List.forall_mem_append.mp hz).1)
          (fun s1 r1 e hfe1 hz1 => ihL is s1 r1 _ hsc.2 hnd'.2.1 hF'.2 rfl (by rw [e] at ok; exact ok) hfe1 hz1)
    · intro i s s' o hsc hnd hF h ok hfe hz
      cases i with
      | op b a t =>
        rw [runOne_op b a t] at h; subst h
        simp only [St.mon_true, onNormal_ok] at ok ⊢
        obtain ⟨hrel, hall⟩ := runOne_op_frame (fns := fns) F f t (s.fire b) (s'.fire b) (hfe.fire b)
          (fun i hi => by simpa [scopedI, hi] using hsc) ok
        simp only [lower]
        rw [List.append_assoc]
        refine SimOk.probes_pre b (SimOk.quiet (RunsL.cons_probes (Runs1.of_ok hrel.ok)) (hrel.onNormal_fire a)
          (hloc := Out.All.onNormal (fun r hr => hr) hall) (hpd := ?_))
        -- a bare instruction does not branch
        cases hq : runOne fns false [] (f + 1) (.op [] [] t) (s.fire b) with
        | br n pd r => exact (runOne_bare_ne_br f t (s.fire b) n pd r hq).elim
        | _ => trivial
      | probe id =>
        cases h
        exact SimOk.plain (RunsL.cons_normal Runs1.probe RunsL.nil) (hfe.fire _) (hloc := rfl) (hpd := trivial)
      | block b ann a tk body =>
        rw [runOne_block] at h; subst h
        simp only [St.mon_true] at ok ⊢
        simp only [scopedI] at hsc
        simp only [flagsI] at hnd hF hz
        simp only [lower, flagsI, pendingI]
        refine SimOk.probes_pre b (SimOk.leave (Lo := []) (s0 := s'.fire b)
          (ihL body _ _ _ hsc hnd hF rfl (leaveBlock_ok ▸ ok) ((hfe.fire b).fire ann.entry) hz) hsc hnd
          (hL := by simp) (hLo := by simp) (hloc := rfl) fun ob' _ hr => ?_)
        have := Runs1.block (a := a) (tk := tk) (RunsL.wrapped ann.entry ann.exit (s := s'.fire b) hr)
        rwa [show (s'.fire b).stack = s.stack from hfe.stack] at this
      | loop b ann tk body =>
        simp only [scopedI, Bool.and_eq_true, List.isEmpty_iff] at hsc
        obtain ⟨⟨hp0, hnt⟩, hscb⟩ := hsc
        rw [runOne_loop] at h; subst h
        simp only [St.mon_true] at ok ⊢
        simp only [flagsI] at hnd hF hz
        have hb := ihL body _ ((s'.fire b).fire ann.entry) _ hscb hnd hF rfl (loopOut_ok ok) ((hfe.fire b).fire _) hz
        generalize run fns true fx f body ((s.fire b).fire ann.entry) = ob at hb ok ⊢
        simp only [lower, flagsI, pendingI]
        refine SimOk.probes_pre b ?_
        by_cases hagain : ∃ pd sb, ob = .br 0 pd sb
        · -- the next iteration: the induction hypothesis for the loop itself (its `before` slot emptied)
          obtain ⟨pd, sb, rfl⟩ := hagain
          obtain ⟨ob', hr, hrelb, hfrb, hpob⟩ := hb
          -- no annotated branch targets the loop: nothing is pending
          cases PostOk.pend_none hrelb hpob hp0
          obtain ⟨rb, rfl, hfeb⟩ := hrelb.br_inv
          -- every flag of the body belongs to a branch that leaves the loop, so all are 0 again
          have hz2 : ∀ x ∈ flagsL body, flagIs ({ rb with stack := (s'.fire b).stack } : St) x 0 := by
            intro x hx
            obtain ⟨d, sa, hm, hxe⟩ := escapeL x body hnt hx
            exact hxe ▸ hpob.2 d sa hm (fun sp hsp => by cases hsp)
          have hfe2 : FlagEq F ({ sb with stack := s.stack } : St) ({ rb with stack := (s'.fire b).stack } : St) := by
            rw [show (s'.fire b).stack = s.stack from hfe.stack]; exact hfeb.withStack _
          -- the flags and pending branches of `.loop [] ann tk body` are, by definition, those of `body`
          obtain ⟨o2', hr2, hrel2, hfr2, hpo2⟩ := ihO (.loop [] ann tk body) _ _ _
            (by simp [scopedI, hp0, hnt, hscb]) hnd hF rfl ok hfe2 hz2
          -- `hfrb`, at a branch outcome, is the statement about `rb.locals` that `Frame.seq` takes; firing probes and replacing the
          -- stack leave the locals
          refine ⟨o2', ?_, hrel2, (Frame.seq (fa := flagsL body) (fb := flagsL body) hfrb hfr2).mono (by simp), hpo2⟩
          exact RunsL.cons_congr hr2 fun o1 => Runs1.loop_again (RunsL.wrapped ann.entry ann.exit (s := s'.fire b) hr)
        · -- the loop is left: what a block does
          have hn : ∀ pd sb, ob ≠ .br 0 pd sb := fun pd sb e => hagain ⟨pd, sb, e⟩
          rw [loopOut_eq_leaveBlock [] 0 hn]
          refine SimOk.leave (Lo := []) (L := []) (s0 := s'.fire b) hb hscb hnd (hL := by simp [hp0]) (hLo := by simp) (hloc := rfl)
            fun ob' hrel hr => ?_
          have hn' : ∀ pd r, ob'.onNormal (·.fire ann.exit) ≠ .br 0 pd r := by
            intro pd r e
            cases ob' <;> cases e
            cases ob with
            | br n pd0 s0 => obtain ⟨rfl, _⟩ := hrel; exact hn _ _ rfl
            | _ => exact hrel.elim
          exact Runs1.loop_leave [] 0 (RunsL.wrapped ann.entry ann.exit (s := s'.fire b) hr) hn'
      | ite b annT annE a tk t e he =>
        simp only [scopedI, Bool.and_eq_true] at hsc
        simp only [flagsI] at hnd hF hz
        have hnd' := List.nodup_append.mp hnd
        have hF' := List.forall_mem_append.mp hF
        have hz' := List.forall_mem_append.mp hz
        cases hs : s.stack with
        | nil => rw [runOne_ite_nil hs] at h; subst h; cases ok
        | cons v st =>
          rw [runOne_ite hs] at h; subst h
          simp only [St.mon_true] at ok ⊢
          have hs' : (s'.fire b).stack = v :: st := hfe.stack.trans hs
          have okb := leaveBlock_ok ▸ ok
          have hfe0 := (hfe.fire b).withStack st
          simp only [lower, flagsI, pendingI]
          refine SimOk.probes_pre b ?_
          by_cases hv : v ≠ 0
          · simp only [if_pos hv] at okb ⊢
            refine SimOk.arm (other := e) (s0 := s'.fire b) (ann := { annT with after := annT.after ++ annE.after })
              (ihL t _ _ _ hsc.1 hnd'.1 hF'.1 rfl okb (hfe0.fire annT.entry) hz'.1)
              (hfl := .refl _) (hL := .refl _) (hpend := fun _ => .refl _) hsc.1 hnd hF hz (hloc := rfl) (fun ob' _ hr => Runs1.ite hs' ?_)
            rw [if_pos hv]; exact RunsL.wrapped annT.entry annT.exit hr
          · simp only [if_neg hv] at okb ⊢
            refine SimOk.arm (other := t) (s0 := s'.fire b) (ann := { annE with after := annT.after ++ annE.after })
              (ihL e _ _ _ hsc.2 hnd'.2.1 hF'.2 rfl okb (hfe0.fire annE.entry) hz'.2)
              (hfl := List.perm_append_comm) (hL := List.perm_append_comm) (hpend := fun _ => List.perm_append_comm) hsc.2 hnd hF hz
              (hloc := rfl) (fun ob' _ hr => Runs1.ite hs' ?_)
            rw [if_neg hv]; exact RunsL.wrapped annE.entry annE.exit hr
      | br b a sa n =>
        rw [runOne_br] at h; subst h
        simp only [lower]
        cases sa with
        | none =>
          rw [List.append_assoc]
          exact SimOk.probes_pre b (SimOk.plain (RunsL.cons_abrupt Runs1.br rfl) ⟨rfl, rfl, hfe.fire b⟩ (hloc := rfl) (hpd := rfl))
        | some sa =>
          have hflag : sa.flag ∈ F := hF sa.flag (by simp [flagsI])
          have hlt := (hz sa.flag (by simp [flagsI])).lt
          simp only [List.append_assoc, List.singleton_append]
          exact SimOk.probes_pre b (SimOk.flagged hlt Runs1.br ((hfe.fire b).setLocal _ _ hflag) rfl)
      | brIf b a sa n =>
        rw [runOne_brIf] at h; subst h
        revert ok
        cases hs : s.stack with
        | nil => exact fun ok => by cases ok
        | cons v st =>
          dsimp only
          simp only [St.mon_true, lower]
          intro ok
          have hst' : (s'.fire b).stack = v :: st := hfe.stack.trans hs
          cases sa with
          | none =>
            rw [List.append_assoc]
            refine SimOk.probes_pre b ?_
            have h1 := Runs1.brIf (fns := fns) (fx := []) (n := n) hst'
            by_cases hv : v ≠ 0
            · rw [if_pos hv] at h1 ⊢
              exact SimOk.plain (RunsL.cons_abrupt h1 rfl) ⟨rfl, rfl, (hfe.fire b).withStack st⟩ (hloc := rfl) (hpd := rfl)
            · rw [if_neg hv] at h1 ⊢
              exact SimOk.plain (RunsL.cons_probes h1) (by simpa [OutRel, saPs, Out.onNormal] using ((hfe.fire b).withStack st).fire a)
                (hloc := rfl) (hpd := trivial)
          | some sa =>
            have hflag : sa.flag ∈ F := hF sa.flag (by simp [flagsI])
            have hlt : sa.flag < (s'.fire b).locals.length := (hz sa.flag (by simp [flagsI])).lt
            simp only [List.append_assoc, List.singleton_append]
            refine SimOk.probes_pre b ?_
            have h1 := Runs1.brIf (fns := fns) (fx := []) (n := n) (s := (s'.fire b).setLocal sa.flag 1) hst'
            by_cases hv : v ≠ 0
            · rw [if_pos hv] at h1 ⊢
              exact SimOk.flagged hlt h1 (((hfe.fire b).setLocal _ _ hflag).withStack st) rfl
            · rw [if_neg hv] at h1 ⊢
              exact SimOk.flagged_skip (a := a) hflag hlt h1 (((hfe.fire b).setLocal _ _ hflag).withStack st) rfl
      | brTable b a sa ts d =>
        simp only [scopedI, Option.isNone_iff_eq_none] at hsc; subst hsc
        rw [runOne_brTable] at h; subst h
        revert ok
        cases hs : s.stack with
        | nil => exact fun ok => by cases ok
        | cons v st =>
          dsimp only
          simp only [lower]
          rw [List.append_assoc]
          exact fun _ => SimOk.probes_pre b (SimOk.plain (RunsL.cons_abrupt (Runs1.brTable (hfe.stack.trans hs)) rfl)
            ⟨rfl, rfl, (hfe.fire b).withStack st⟩ (hloc := rfl) (hpd := rfl))
      | ret b a =>
        rw [runOne_ret] at h; subst h
        simp only [lower]
        rw [List.append_assoc, List.append_assoc]
        exact SimOk.probes_pre b (SimOk.probes_pre fx (SimOk.plain (RunsL.cons_abrupt Runs1.ret rfl)
          ((hfe.fire b).fire fx) (hloc := rfl) (hpd := trivial)))
      | unreachable b a =>
        rw [runOne_unreachable] at h; subst h
        simp only [lower]
        rw [List.append_assoc, List.append_assoc]
        exact SimOk.probes_pre b (SimOk.probes_pre fx (SimOk.plain (RunsL.cons_abrupt Runs1.unreachable rfl)
          ((hfe.fire b).fire fx) (hloc := rfl) (hpd := trivial)))

theorem branch_sim {F fx : List Nat} {f : Nat} {p : List Instr} {s s' : St} {o : Out}
    (hsc : scopedL F p = true) (hnd : (flagsL p).Nodup) (hF : ∀ x ∈ flagsL p, x ∈ F)
    (h : run fns true fx f p s = o) (ok : o.ok = true) (hfe : FlagEq F s s') (hz : ∀ x ∈ flagsL p, flagIs s' x 0) :
    SimOk fns F (flagsL p) (fun d => pendingL d p) (lowerL fx p) s' o :=
  (branch_sim_aux (fns := fns) F fx f).1 p s s' o hsc hnd hF h ok hfe hz

/-- results of the monitored and of the lowered function: the same values, trap or no trap, states equal up to flag locals -/
def FOutRel (F : List Nat) : FOut → FOut → Prop
  | .returned vs s, .returned vs' s' => vs' = vs ∧ FlagEq F s s'
  | .trapped s, .trapped s' => FlagEq F s s'
  | _, _ => False

theorem FOutRel.abs {F : List Nat} {a b : FOut} (h : FOutRel F a b) : b.abs = a.abs := by
  cases a <;> cases b <;> simp only [FOutRel] at h
  · obtain ⟨rfl, h⟩ := h; simp [FOut.abs, h.globals, h.mem]
  · simp [FOut.abs, h.globals, h.mem]

theorem finish_rel {F : List Nat} {G : Func} {base : List Nat} {o o' : Out} (h : OutRel F o o')
    (ok : (finish false G base o).ok = true) : FOutRel F (finish false G base o) (finish false G base o') := by
  cases o with
  | normal s => obtain ⟨r, rfl, hfe⟩ := h.normal_inv; exact ⟨by rw [hfe.stack], hfe⟩
  | br n pd s =>
    obtain ⟨r, rfl, hfe⟩ := h.br_inv
    cases n with
    | zero => exact ⟨by rw [hfe.stack], hfe.exitTo base G.nres⟩
    | succ n => cases ok
  | ret s => obtain ⟨r, rfl, hfe⟩ := h.ret_inv; exact ⟨by rw [hfe.stack], hfe⟩
  | trap s => obtain ⟨r, rfl, hfe⟩ := h.trap_inv; exact hfe
  | stuck w => exact h.elim

theorem finish_plain {Fn : Func} (hex : Fn.exit = []) {o : Out} (hp : o.noPend) :
    finish true Fn [] o = finish false (lowerF Fn) [] (o.onNormal (·.fire Fn.endBefore)) := by
  have hn : (lowerF Fn).nres = Fn.nres := rfl
  cases o with
  | br n pd s => cases hp; cases n <;> simp [finish, Out.onNormal, saPs, hex, hn]
  | _ => simp [finish, Out.onNormal, hex, hn]

/-- a function with exit probes is a block around its body: exit `before` probes of the final `end`, semantic-after the exit probes -/
theorem finish_wrapped {Fn : Func} {o : Out} (ok : (finish true Fn [] o).ok = true) :
    finish true Fn [] o = finish false (lowerF Fn) [] (leaveBlock true ⟨[], Fn.endBefore, Fn.exit⟩ [] Fn.nres o) := by
  have hn : (lowerF Fn).nres = Fn.nres := rfl
  cases o with
  | br n pd s =>
    cases n with
    | zero => simp [finish, leaveBlock, St.exitTo, hn, List.take_take]
    | succ n => cases ok
  | _ => simp [finish, leaveBlock, hn]

/-- `branch_sim` at function level: no annotated branch leaves the body, at any depth (`hnoesc`); empty operand stack at the call;
    `s` and `s'` both have the flag locals. Results, trap, globals, memory and trace are the monitor's; the flag locals may differ. -/
theorem branch_lowerF_sim (F : List Nat) (Fn : Func) (hsc : scopedL F Fn.body = true) (hnd : (flagsL Fn.body).Nodup)
    (hF : ∀ x ∈ flagsL Fn.body, x ∈ F) (hnoesc : ∀ d, pendingL d Fn.body = [])
    (s s' : St) (hs : s.stack = []) (hfe : FlagEq F s s') (hz : ∀ x ∈ flagsL Fn.body, flagIs s' x 0) (f : Nat)
    (ok : (runFunc fns true f Fn s).ok = true) :
    ∃ g, FOutRel F (runFunc fns true f Fn s) (runFunc fns false g (lowerF Fn) s') := by
  unfold runFunc at ok ⊢
  simp only [if_true, Bool.false_eq_true, if_false, hfe.stack, hs] at ok ⊢
  generalize ho : run fns true Fn.exit f Fn.body (s.fire Fn.entry) = o at ok
  have hsim := branch_sim (fns := fns) hsc hnd hF ho (finish_ok ok) (hfe.fire Fn.entry) hz
  by_cases hexit : Fn.exit = []
  · obtain ⟨o', hr, hrel, _, hpo⟩ := hsim
    have hnp : o.noPend := hpo.noPend hrel hnoesc
    rw [hexit] at hr
    obtain ⟨g, eg, _⟩ := RunsL.probes_pre Fn.entry (RunsL.probes_post Fn.endBefore hr)
    refine ⟨g, ?_⟩
    rw [finish_plain hexit hnp] at ok ⊢
    rw [show (lowerF Fn).body = probes Fn.entry ++ (lowerL [] Fn.body ++ probes Fn.endBefore) by simp [lowerF, hexit],
      show (lowerF Fn).exit = [] from rfl, eg]
    exact finish_rel (hrel.onNormal_fire _) ok
  · obtain ⟨o', ⟨g, rfl, _⟩, hrel, _⟩ := SimOk.probes_pre Fn.entry
      (SimOk.leave (Lo := []) (L := []) (ann := ⟨[], Fn.endBefore, Fn.exit⟩) (a := Fn.nres) hsim hsc hnd
        (hL := by simp [hnoesc]) (hLo := by simp) (hloc := rfl)
        fun ob' _ hr => Runs1.block (tk := "block:functype") (RunsL.probes_post Fn.endBefore hr))
    refine ⟨g, ?_⟩
    -- `Runs1.block` leaves to the stack the wrapper was entered with, `(s'.fire Fn.entry).stack`: it is empty
    rw [show (s'.fire Fn.entry).stack = [] from hfe.stack.trans hs] at hrel
    have e := finish_wrapped ok
    rw [e] at ok ⊢
    rw [show (lowerF Fn).body = probes Fn.entry ++ Instr.block [] {} Fn.nres "block:functype" (lowerL Fn.exit Fn.body ++ probes Fn.endBefore)
        :: probes Fn.exit by simp [lowerF, hexit]]
    exact finish_rel hrel ok

end Orca.Sem
