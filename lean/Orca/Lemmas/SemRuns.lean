import Orca.Lemmas.Sem
/-! `RunsL` / `Runs1`: "the executable semantics finishes with outcome `o`" (some fuel suffices), and the rules by which
    such runs compose: sequencing, probes, and the constructs of the bare machine (monitor off, no annotations) that the
    lowering emits. -/
namespace Orca.Sem

variable {fns : List Callee}

theorem run_mono_le {m fx f g p s} (hok : (run fns m fx f p s).ok = true) (hle : f ≤ g) :
    run fns m fx g p s = run fns m fx f p s := by
  induction hle with
  | refl => rfl
  | step _ ih => rw [(run_fuel_succ fns _ m fx).1 _ _ (ih ▸ hok), ih]

theorem runOne_mono_le {m fx f g i s} (hok : (runOne fns m fx f i s).ok = true) (hle : f ≤ g) :
    runOne fns m fx g i s = runOne fns m fx f i s := by
  induction hle with
  | refl => rfl
  | step _ ih => rw [(run_fuel_succ fns _ m fx).2 _ _ (ih ▸ hok), ih]

def RunsL (fns : List Callee) (m : Bool) (fx : List Nat) (p : List Instr) (s : St) (o : Out) : Prop :=
  ∃ f, run fns m fx f p s = o ∧ o.ok = true

def Runs1 (fns : List Callee) (m : Bool) (fx : List Nat) (i : Instr) (s : St) (o : Out) : Prop :=
  ∃ f, runOne fns m fx f i s = o ∧ o.ok = true

theorem RunsL.ok {m fx p s o} (h : RunsL fns m fx p s o) : o.ok = true := let ⟨_, _, ok⟩ := h; ok
theorem Runs1.ok {m fx i s o} (h : Runs1 fns m fx i s o) : o.ok = true := let ⟨_, _, ok⟩ := h; ok

theorem Runs1.of_ok {m fx f i s} (ok : (runOne fns m fx f i s).ok = true) : Runs1 fns m fx i s (runOne fns m fx f i s) := ⟨f, rfl, ok⟩

theorem Runs1.and_RunsL {m fx i s o1 m' fx' p s' o2} (h1 : Runs1 fns m fx i s o1) (h2 : RunsL fns m' fx' p s' o2) :
    ∃ f, runOne fns m fx f i s = o1 ∧ run fns m' fx' f p s' = o2 := by
  obtain ⟨f1, rfl, ok1⟩ := h1
  obtain ⟨f2, rfl, ok2⟩ := h2
  exact ⟨max f1 f2, runOne_mono_le ok1 (Nat.le_max_left ..), run_mono_le ok2 (Nat.le_max_right ..)⟩

theorem RunsL.det {m fx p s o o'} (h : RunsL fns m fx p s o) (h' : RunsL fns m fx p s o') : o' = o := by
  obtain ⟨f, rfl, ok⟩ := h
  obtain ⟨f', rfl, ok'⟩ := h'
  rw [← run_mono_le ok (Nat.le_max_left f f'), ← run_mono_le ok' (Nat.le_max_right f f')]

theorem RunsL.nil {m fx s} : RunsL fns m fx [] s (.normal s) := ⟨1, rfl, rfl⟩

theorem RunsL.cons_normal {m fx i is s s' o} (h1 : Runs1 fns m fx i s (.normal s')) (h2 : RunsL fns m fx is s' o) :
    RunsL fns m fx (i :: is) s o := by
  obtain ⟨f, e1, e2⟩ := h1.and_RunsL h2
  exact ⟨f + 1, by rw [run_cons, e1]; exact e2, h2.ok⟩

theorem RunsL.cons_abrupt {m fx i is s o} (h1 : Runs1 fns m fx i s o) (hn : o.isNormal = false) :
    RunsL fns m fx (i :: is) s o := by
  obtain ⟨f1, e1, ok1⟩ := h1
  refine ⟨f1 + 1, ?_, ok1⟩
  rw [run_cons, e1]
  cases o <;> first | rfl | cases hn

theorem RunsL.cons_inv {m fx i is s o} (h : RunsL fns m fx (i :: is) s o) :
    (∃ s', Runs1 fns m fx i s (.normal s') ∧ RunsL fns m fx is s' o)
    ∨ (Runs1 fns m fx i s o ∧ o.isNormal = false) := by
  obtain ⟨f, e, ok⟩ := h
  cases f with
  | zero => rw [run_zero] at e; subst e; cases ok
  | succ f =>
    rw [run_cons] at e
    have ok1 : (runOne fns m fx f i s).ok = true := andThen_ok (e ▸ ok)
    cases hx : runOne fns m fx f i s with
    | normal s' => rw [hx] at e; exact .inl ⟨s', ⟨f, hx, rfl⟩, ⟨f, e, ok⟩⟩
    | stuck w => rw [hx] at ok1; cases ok1
    | _ => rw [hx] at e; subst e; exact .inr ⟨⟨f, hx, rfl⟩, rfl⟩

theorem RunsL.append {m fx p} : ∀ {s o1 q o}, RunsL fns m fx p s o1 →
    (∀ s', o1 = .normal s' → RunsL fns m fx q s' o) → (o1.isNormal = false → o = o1) →
    RunsL fns m fx (p ++ q) s o := by
  induction p with
  | nil =>
    intro s o1 q o h hn _
    exact hn s (RunsL.nil.det h)
  | cons i is ih =>
    intro s o1 q o h hn ha
    rcases RunsL.cons_inv h with ⟨s', h1, h2⟩ | ⟨h1, hx⟩
    · exact RunsL.cons_normal h1 (ih h2 hn ha)
    · rw [ha hx]; exact RunsL.cons_abrupt h1 hx

theorem RunsL.append_normal {m fx p q s s' o} (h1 : RunsL fns m fx p s (.normal s')) (h2 : RunsL fns m fx q s' o) :
    RunsL fns m fx (p ++ q) s o :=
  RunsL.append h1 (fun _ e => by cases e; exact h2) (fun e => by cases e)

theorem RunsL.append_abrupt {m fx p q s o} (h : RunsL fns m fx p s o) (hn : o.isNormal = false) : RunsL fns m fx (p ++ q) s o :=
  RunsL.append h (fun _ e => by rw [e] at hn; cases hn) (fun _ => rfl)

theorem RunsL.cons_congr {m fx i j is s s' o} (h : RunsL fns m fx (i :: is) s o)
    (hij : ∀ o1, Runs1 fns m fx i s o1 → Runs1 fns m fx j s' o1) : RunsL fns m fx (j :: is) s' o := by
  rcases RunsL.cons_inv h with ⟨s2, h1, h2⟩ | ⟨h1, hx⟩
  · exact RunsL.cons_normal (hij _ h1) h2
  · exact RunsL.cons_abrupt (hij _ h1) hx

theorem Runs1.probe {m fx id s} : Runs1 fns m fx (.probe id) s (.normal (s.fire [id])) := ⟨1, rfl, rfl⟩

theorem RunsL.probes_pre {m fx is s o} (ps : List Nat) (h : RunsL fns m fx is (s.fire ps) o) :
    RunsL fns m fx (probes ps ++ is) s o := by
  induction ps generalizing s with
  | nil => simpa [probes] using h
  | cons p ps ih =>
    refine RunsL.cons_normal Runs1.probe (ih ?_)
    simpa using h

theorem RunsL.probes_only {m fx s} (ps : List Nat) : RunsL fns m fx (probes ps) s (.normal (s.fire ps)) := by
  simpa using RunsL.probes_pre (fns := fns) (m := m) (fx := fx) (is := []) (s := s) ps RunsL.nil

theorem RunsL.probes_inv {m fx s o} (ps : List Nat) (h : RunsL fns m fx (probes ps) s o) : o = .normal (s.fire ps) :=
  (RunsL.probes_only ps).det h

theorem RunsL.probes_post {m fx body s ob} (ex : List Nat) (h : RunsL fns m fx body s ob) :
    RunsL fns m fx (body ++ probes ex) s (ob.onNormal (·.fire ex)) := by
  cases ob with
  | normal s' => exact RunsL.append_normal h (RunsL.probes_only ex)
  | stuck w => cases h.ok
  | _ => exact RunsL.append_abrupt h rfl

theorem RunsL.wrapped {m fx body s ob} (en ex : List Nat) (h : RunsL fns m fx body (s.fire en) ob) :
    RunsL fns m fx (probes en ++ body ++ probes ex) s (ob.onNormal (·.fire ex)) := by
  rw [List.append_assoc]
  exact RunsL.probes_pre en (RunsL.probes_post ex h)

theorem RunsL.cons_probes {m fx i ps s o} (h : Runs1 fns m fx i s o) :
    RunsL fns m fx (i :: probes ps) s (o.onNormal (·.fire ps)) := by
  cases o with
  | normal s' => exact RunsL.cons_normal h (RunsL.probes_only ps)
  | stuck w => cases h.ok
  | _ => exact RunsL.cons_abrupt h rfl

theorem Runs1.block {fx a tk body s ob} (h : RunsL fns false fx body s ob) :
    Runs1 fns false fx (.block [] {} a tk body) s (leaveBlock false {} s.stack a ob) := by
  obtain ⟨f, e, ok⟩ := h
  exact ⟨f + 1, by rw [runOne_block]; exact congrArg _ e, leaveBlock_ok.trans ok⟩

theorem Runs1.ite {fx a tk t e he s v st ob} (hs : s.stack = v :: st)
    (h : RunsL fns false fx (if v ≠ 0 then t else e) { s with stack := st } ob) :
    Runs1 fns false fx (.ite [] {} {} a tk t e he) s (leaveBlock false {} st a ob) := by
  obtain ⟨f, e', ok⟩ := h
  refine ⟨f + 1, ?_, leaveBlock_ok.trans ok⟩
  rw [runOne_ite hs]
  subst e'
  split <;> rfl

theorem Runs1.br {fx n s} : Runs1 fns false fx (.br [] [] none n) s (.br n none s) := ⟨1, rfl, rfl⟩
theorem Runs1.ret {fx s} : Runs1 fns false fx (.ret [] []) s (.ret s) := ⟨1, rfl, rfl⟩
theorem Runs1.unreachable {fx s} : Runs1 fns false fx (.unreachable [] []) s (.trap s) := ⟨1, rfl, rfl⟩

theorem Runs1.brIf {fx n s v st} (hs : s.stack = v :: st) :
    Runs1 fns false fx (.brIf [] [] none n) s
      (if v ≠ 0 then .br n none { s with stack := st } else .normal { s with stack := st }) :=
  ⟨1, by rw [runOne_brIf, hs]; rfl, by split <;> rfl⟩

theorem Runs1.brTable {fx ts d s v st} (hs : s.stack = v :: st) :
    Runs1 fns false fx (.brTable [] [] none ts d) s (.br ((ts[v]?).getD d) none { s with stack := st }) :=
  ⟨1, by rw [runOne_brTable, hs]; rfl, rfl⟩

/-- the body leaves the loop (falls through, branches further out, returns or traps): what a block does -/
theorem Runs1.loop_leave {fx tk body s ob} (base : List Nat) (a : Nat) (h : RunsL fns false fx body s ob)
    (hn : ∀ pd s', ob ≠ .br 0 pd s') : Runs1 fns false fx (.loop [] {} tk body) s (leaveBlock false {} base a ob) := by
  obtain ⟨f, e, ok⟩ := h
  refine ⟨f + 1, ?_, leaveBlock_ok.trans ok⟩
  rw [runOne_loop]
  simp only [St.mon_false]
  rw [e]
  exact loopOut_eq_leaveBlock base a hn

theorem Runs1.loop_again {fx tk body s pd s' o} (h : RunsL fns false fx body s (.br 0 pd s'))
    (h2 : Runs1 fns false fx (.loop [] {} tk body) { s' with stack := s.stack } o) :
    Runs1 fns false fx (.loop [] {} tk body) s o := by
  obtain ⟨f, e2, e⟩ := h2.and_RunsL h
  refine ⟨f + 1, ?_, h2.ok⟩
  rw [runOne_loop]
  simp only [St.mon_false]
  rw [e]
  exact e2

def St.setLocal (s : St) (x v : Nat) : St := { s with locals := setNth s.locals x v }

theorem Runs1.const {fx} {s : St} (v : Nat) :
    Runs1 fns false fx (.op [] [] (.const v)) s (.normal { s with stack := (v % W) :: s.stack }) :=
  ⟨1, rfl, rfl⟩

theorem Runs1.localSet {fx} {s : St} (x v : Nat) (st : List Nat) (hs : s.stack = v :: st) (hx : x < s.locals.length) :
    Runs1 fns false fx (.op [] [] (.localSet x)) s (.normal { (s.setLocal x v) with stack := st }) :=
  ⟨1, by rw [runOne_bare]; dsimp only [stepTok, stepCore, St.core]; simp only [hs, if_pos hx]; rfl, rfl⟩

theorem Runs1.localGet {fx} {s : St} (x v : Nat) (hx : s.locals[x]? = some v) :
    Runs1 fns false fx (.op [] [] (.localGet x)) s (.normal { s with stack := v :: s.stack }) :=
  ⟨1, by rw [runOne_bare]; dsimp only [stepTok, stepCore, St.core]; rw [hx]; rfl, rfl⟩

theorem RunsL.setFlag_pre {fx} {is : List Instr} {s : St} {o : Out} (x v : Nat) (hv : v < W) (hx : x < s.locals.length)
    (h : RunsL fns false fx is (s.setLocal x v) o) : RunsL fns false fx (setFlag x v ++ is) s o :=
  RunsL.cons_normal (Runs1.const v)
    (RunsL.cons_normal (Runs1.localSet x v s.stack (by rw [Nat.mod_eq_of_lt hv]) hx) h)

end Orca.Sem
