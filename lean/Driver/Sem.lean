import Orca.Model.SemTree
import Orca.Lemmas.SemScope
import Driver.Util
import Driver.Lower
/-!
driver of the `sem` family (C16-C20):

`sem <case> np= nl= nres= nglob= callees= body= plan= args= out= `

* the flat model (M3) and the tree model (M4) lower the planned injections; the tree model's output is printed when the
  case is inside its scope, the flat model's otherwise (`out=`), in canonical probe order;
* the *monitor semantics* of the annotated original and the plain semantics of the real crate's decoded output (`out=`
  of the case line) are executed on every argument vector and compared: `ORACLE OK|FAIL …` lines.
-/
namespace Driver
open Orca.Sem Orca.SemTree

structure ProbeInfo where
  id : Nat
  kind : String      -- before | after | entry | exit | semafter-block | semafter-branch | fentry | fexit
  ctx : String       -- extra context used for the signature of a failure
deriving Repr

mutual
def hasBlockLikeI : Instr → Bool
  | .block .. | .loop .. | .ite .. => true
  | _ => false
def hasBlockLikeL : List Instr → Bool
  | [] => false
  | i :: is => hasBlockLikeI i || hasBlockLikeL is
end

def mk (kind ctx : String) (ps : List Nat) : List ProbeInfo := ps.map fun p => { id := p, kind := kind, ctx := ctx }

/-- kind of the construct a branch with label `n` reaches, given the enclosing constructs (innermost first) -/
def targetKind (encl : List String) (n : Nat) : String :=
  match encl[n]? with
  | some k => k
  | none => if n = encl.length then "fnlabel" else "out-of-range"

mutual
def infoI (encl : List String) : Instr → List ProbeInfo
  | .op b a _ => mk "before" "" b ++ mk "after" "" a
  | .probe _ => []
  | .block b ann _ _ body =>
    mk "before" "" b ++ mk "entry" "block" ann.entry ++ mk "exit" "block" ann.exit ++ mk "semafter-block" "block" ann.after
      ++ infoL ("block" :: encl) body
  | .loop b ann _ body =>
    mk "before" "" b ++ mk "entry" "loop" ann.entry ++ mk "exit" "loop" ann.exit ++ mk "semafter-block" "loop" ann.after
      ++ infoL ("loop" :: encl) body
  | .ite b annT annE _ _ t e _ =>
    mk "before" "" b ++ mk "entry" "if" annT.entry ++ mk "exit" (if hasBlockLikeL t then "if-nested" else "if") annT.exit
      ++ mk "semafter-block" "if" annT.after
      ++ mk "entry" "else" annE.entry ++ mk "exit" "else" annE.exit ++ mk "semafter-block" "else" annE.after
      ++ infoL ("if" :: encl) t ++ infoL ("if" :: encl) e
  | .br b a sa n => mk "before" "" b ++ mk "after" "dead" a ++ mk "semafter-branch" (targetKind encl n) (saPs sa)
  | .brIf b a sa n => mk "before" "" b ++ mk "after" "" a ++ mk "semafter-branch" (targetKind encl n) (saPs sa)
  | .brTable b a sa ts d =>
    let kinds := (ts ++ [d]).map (targetKind encl)
    let ctx := if kinds.contains "loop" then "loop" else if kinds.contains "fnlabel" then "fnlabel" else "block"
    mk "before" "" b ++ mk "after" "dead" a ++ mk "semafter-branch" ctx (saPs sa)
  | .ret b a => mk "before" "" b ++ mk "after" "dead" a
  | .unreachable b a => mk "before" "" b ++ mk "after" "dead" a
def infoL (encl : List String) : List Instr → List ProbeInfo
  | [] => []
  | i :: is => infoI encl i ++ infoL encl is
end

def infoF (f : Orca.Sem.Func) : List ProbeInfo :=
  mk "fentry" "" f.entry ++ mk "fexit" "" f.exit ++ infoL [] f.body ++ mk "before" "final-end" f.endBefore

mutual
/-- largest number of flagged bodies one construct's `end` has to dispatch -/
def maxPendI : Instr → Nat
  | .block _ _ _ _ body => max (pendingL 0 body).length (maxPendL body)
  | .loop _ _ _ body => max (pendingL 0 body).length (maxPendL body)
  | .ite _ _ _ _ _ t e _ => max ((pendingL 0 t).length + (pendingL 0 e).length) (max (maxPendL t) (maxPendL e))
  | _ => 0
def maxPendL : List Instr → Nat
  | [] => 0
  | i :: is => max (maxPendI i) (maxPendL is)
end

mutual
/-- first instruction's `before` list (what the code hoists in front of the function-entry code) -/
def firstBefore : List Instr → List Nat
  | .op b _ _ :: _ | .block b .. :: _ | .loop b .. :: _ | .ite b .. :: _ | .br b .. :: _ | .brIf b .. :: _
  | .brTable b .. :: _ | .ret b _ :: _ | .unreachable b _ :: _ => b
  | _ => []
end

/-- reasons why the tree model's placement is not the code's (each is a recorded mechanism, see DESIGN.md) -/
def treeScope (f : Orca.Sem.Func) : Option String :=
  let info := infoF f
  if info.any (fun p => p.kind == "semafter-branch" && p.ctx == "fnlabel") then some "branch-to-fnlabel"
  else if info.any (fun p => p.kind == "semafter-branch" && p.ctx == "loop") then some "branch-to-loop"
  else if maxPendL f.body > 2 then some "three-flagged"
  else if (!f.entry.isEmpty || !f.exit.isEmpty) && !(firstBefore f.body).isEmpty then some "before-at-0-with-func-level"
  else none

def normMem (m : List (Nat × Nat)) : List (Nat × Nat) :=
  let addrs := (m.map (·.1)).eraseDups
  let cells := addrs.map fun a => (a, memRead m a)
  (cells.filter (·.2 != 0)).mergeSort (fun a b => a.1 ≤ b.1)

def parseCallee (s : String) : Option Callee :=
  match s.splitOn "~" with
  | ["log"] => some { nparams := 1, nresults := 0, nlocals := 0, body := [], log := true }
  | ["self"] => some { nparams := 0, nresults := 0, nlocals := 0, body := [.unreachable [] []] }
  | [np, nr, nl, body] => do
    let b ← parseToks (← nr.toNat?) (parseList body)
    pure { nparams := ← np.toNat?, nresults := ← nr.toNat?, nlocals := ← nl.toNat?, body := b }
  | _ => none

def showFOut : FOut → String
  | .returned r s => s!"returned {r} globals={s.globals} mem={normMem s.mem}"
  | .trapped s => s!"trapped globals={s.globals} mem={normMem s.mem}"
  | .stuck w => s!"stuck({w})"

def traceOf : FOut → List Nat
  | .returned _ s => s.trace
  | .trapped s => s.trace
  | .stuck _ => []

def FUEL : Nat := 200000

/-- the function is in the scope on which `c20_function_partial` proves the code's flag scheme right: a mismatch of a semantic-after
    probe on a branch there is not one of the recorded findings (F14, F15, F27), whatever it looks like -/
def provedC20 (F : Orca.Sem.Func) : Bool :=
  let fl := Orca.Sem.flagsL F.body
  Orca.Sem.scopedL fl F.body && fl.eraseDups.length == fl.length && (List.range 16).all (fun d => (Orca.Sem.pendingL d F.body).isEmpty)

def propOfKind (k : String) : String :=
  match k with
  | "fentry" | "fexit" => "C17"
  | "entry" => "C18"
  | "exit" => "C19"
  | "semafter-block" | "semafter-branch" => "C20"
  | _ => "C16"

def runSem (toks : List String) : List String :=
  match toks with
  | case :: rest =>
    let r : Option (List String) := do
      let np ← (kv rest "np").bind (·.toNat?)
      let nl ← (kv rest "nl").bind (·.toNat?)
      let nres ← (kv rest "nres").bind (·.toNat?)
      let nglob ← (kv rest "nglob").bind (·.toNat?)
      let callees ← ((kv rest "callees").getD "log").splitOn "|" |>.mapM parseCallee
      let body := parseList ((kv rest "body").getD "-")
      let plan ← (kv rest "plan").bind (fun s => (if s = "-" then [] else s.splitOn ";").mapM parseApiOp)
      let argvs ← ((kv rest "args").getD "-" |> fun s => if s = "-" then [] else s.splitOn ";").mapM
        (fun v => (if v = "" || v = "_" then some [] else (v.splitOn ".").mapM (·.toNat?)))
      let realOut := (kv rest "out").getD "PANIC"
      let f0 : Orca.Lower.Func := { body := body.map (fun t => { tok := t, kind := kindOf t }), nlocals := np + nl }
      match Orca.Lower.applyAll f0 plan with
      | none => pure [s!"sem {case} PANIC"]
      | some f =>
        let (flat, added) := Orca.Lower.lower f
        let tree := toTree f nres
        let scope : String := match tree with
          | none => "no-tree"
          | some F => (treeScope F).getD "in"
        let shown : List String := match tree, scope with
          | some F, "in" => flattenF (lowerF F)
          | _, _ => flat
        let lines := [s!"sem {case} out={showStrs (normProbes shown)}", s!"sem {case} added={added}", s!"INFO sem {case} scope={scope}"]
        -- execution oracle
        let oracle : List String :=
          if realOut = "PANIC" then []
          else
          match tree, parseToks nres (parseList realOut) with
          | some F, some realBody =>
            let info := infoF F
            let realF : Orca.Sem.Func := { nres := nres, body := realBody }
            let fails : List String := argvs.flatMap fun args =>
              let s0 : St := { stack := [], locals := args ++ List.replicate (nl + 64) 0, globals := List.replicate nglob 0, mem := [], trace := [] }
              let spec := runFunc callees true FUEL F s0
              let real := runFunc callees false FUEL realF s0
              match spec with
              | .stuck w => [s!"prop=C16 sig=harness-spec-run-stuck {w}"]
              | _ =>
              match real with
              | .stuck w => [s!"prop=C16,C17,C18,C19,C20 sig=instrumented-code-stuck args={args} {w}"]
              | _ =>
              let st := showFOut spec
              let rt := showFOut real
              let a : List String := if st != rt then [s!"prop=C16 sig=behaviour-differs args={args} original: {st} instrumented: {rt}"] else []
              let ts := traceOf spec
              let tr := traceOf real
              -- events nobody planned
              let known := info.map (·.id)
              let stray := tr.filter (fun e => e ≥ 1000 && !known.contains e)
              let b : List String := if stray.isEmpty then [] else [s!"prop=C16 sig=unknown-events {stray}"]
              let c : List String := info.flatMap fun p =>
                -- branches to loop labels are outside C20
                if p.kind == "semafter-branch" && p.ctx == "loop" then [] else
                let proj (t : List Nat) := t.filter (fun e => e < 1000 || e == p.id)
                let ps := proj ts
                let pr := proj tr
                if ps == pr then [] else
                  let cs := (ps.filter (· == p.id)).length
                  let cr := (pr.filter (· == p.id)).length
                  let how := if cr > cs then "fires-more" else if cr < cs then "fires-less" else "fires-at-wrong-moment"
                  let proved := if p.kind == "semafter-branch" && provedC20 F then "-in-proved-scope" else ""
                  [s!"prop={propOfKind p.kind} sig={p.kind}-{if p.ctx = "" then "any" else p.ctx}-{how}{proved} probe={p.id} args={args} want={ps} got={pr}"]
              a ++ b ++ c
            -- one line per distinct signature
            let sigOf (l : String) : String := ((l.splitOn " ").filter (·.startsWith "sig=")).headD ""
            let distinct := fails.foldl (fun acc l => if acc.any (fun x => sigOf x == sigOf l) then acc else acc ++ [l]) []
            if distinct.isEmpty then [s!"ORACLE OK sem {case}"] else distinct.map fun l => s!"ORACLE FAIL sem {case} {l}"
          | none, _ => [s!"INFO sem {case} oracle=skipped-no-tree"]
          | _, none => [s!"INFO sem {case} oracle=skipped-output-not-well-nested"]   -- the harness's validator reports it
        pure (lines ++ oracle)
    match r with
    | some ls => ls
    | none => [s!"sem {case} bad-op"]
  | _ => ["sem ? bad-op"]

end Driver
